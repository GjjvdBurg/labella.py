import Labella.Model.CalSpec
/-! The civil-calendar model: years, months and civil dates, and for every unit the grid of its boundaries, on which
floor, ceil, step and range are index arithmetic (C17; the time ticks and `nice` of C16, C14 and C11 build on the grid). -/
namespace Labella.Calendar

/-! ### sequences with positive steps -/

section steps
variable {f : Int → Int} {c : Int}

theorem incr_add_le (h : ∀ i, f i + c ≤ f (i + 1)) (i : Int) (k : Nat) : f i + c * k ≤ f (i + k) := by
  induction k with
  | zero => simp
  | succ k ih =>
    have s := h (i + k)
    rw [Int.natCast_succ, Int.mul_add, Int.mul_one, ← Int.add_assoc i]
    omega

theorem incr_mul_le (h : ∀ i, f i + c ≤ f (i + 1)) {i j : Int} (hij : i ≤ j) : f i + (j - i) * c ≤ f j := by
  have := incr_add_le h i (j - i).toNat
  rwa [Int.toNat_of_nonneg (by omega), show i + (j - i) = j by omega, Int.mul_comm] at this

theorem incr_le (h : ∀ i, f i + c ≤ f (i + 1)) (hc : 0 ≤ c) {i j : Int} (hij : i ≤ j) : f i ≤ f j := by
  have := incr_mul_le h hij
  have := Int.mul_nonneg (show 0 ≤ j - i by omega) hc
  omega

theorem incr_lt_iff (h : ∀ i, f i + c ≤ f (i + 1)) (hc : 0 < c) {i j : Int} : f i < f j ↔ i < j :=
  ⟨fun hlt => Int.not_le.1 fun hji => Int.not_le.2 hlt (incr_le h (Int.le_of_lt hc) hji),
    fun hij => Int.lt_of_lt_of_le (by have := h i; omega) (incr_le h (Int.le_of_lt hc) (show i + 1 ≤ j from hij))⟩

end steps

/-! ### years -/

theorem yearLen_bounds (y : Int) : 365 ≤ yearLen y ∧ yearLen y ≤ 366 := by
  unfold yearLen; split <;> omega

theorem emod_zero_of_dvd {y m n : Int} (hmn : m ∣ n) (h : y % n = 0) : y % m = 0 :=
  Int.emod_eq_zero_of_dvd (Int.dvd_trans hmn (Int.dvd_of_emod_eq_zero h))

theorem yearLen_eq (y : Int) :
    yearLen y = 365 + (if y % 4 = 0 then 1 else 0) - (if y % 100 = 0 then 1 else 0) + (if y % 400 = 0 then 1 else 0) := by
  have a : y % 100 = 0 → y % 4 = 0 := emod_zero_of_dvd (by decide)
  have b : y % 400 = 0 → y % 100 = 0 := emod_zero_of_dvd (by decide)
  unfold yearLen isLeap
  by_cases h400 : y % 400 = 0
  · simp [h400, b h400, a (b h400)]
  · by_cases h100 : y % 100 = 0
    · simp [h400, h100, a h100]
    · by_cases h4 : y % 4 = 0 <;> simp [h4, h100, h400]

theorem ediv_pred (y : Int) {n : Int} (hn : 0 < n) : y / n = (y - 1) / n + if y % n = 0 then 1 else 0 := by
  have e := Int.ediv_mul_add_emod y n
  have h0 := Int.emod_nonneg y (Int.ne_of_gt hn)
  have h1 := Int.emod_lt_of_pos y hn
  split
  · have : (y - 1) / n = y / n - 1 := (Int.ediv_eq_iff_of_pos hn).2 (by rw [Int.sub_mul, Int.one_mul]; omega)
    omega
  · have : (y - 1) / n = y / n := (Int.ediv_eq_iff_of_pos hn).2 (by omega)
    omega

/-- `daysBeforeYear` with the leap days counted from year 0: there are `y/4 - y/100 + y/400` up to the end of year `y`,
and 477 of them up to the end of 1969 -/
theorem dby_eq (y : Int) :
    daysBeforeYear y = 365 * (y - 1970) + ((y - 1) / 4 - (y - 1) / 100 + (y - 1) / 400) - 477 := by
  unfold daysBeforeYear; omega

theorem daysBeforeYear_succ (y : Int) : daysBeforeYear (y + 1) = daysBeforeYear y + yearLen y := by
  rw [dby_eq, dby_eq, Int.add_sub_cancel, ediv_pred y (n := 4) (by decide), ediv_pred y (n := 100) (by decide),
    ediv_pred y (n := 400) (by decide), yearLen_eq]
  omega

theorem dby_step (y : Int) :
    daysBeforeYear y + 365 ≤ daysBeforeYear (y + 1) ∧ daysBeforeYear (y + 1) ≤ daysBeforeYear y + 366 := by
  have := daysBeforeYear_succ y; have := yearLen_bounds y; omega

theorem dby_lt_iff {y y' : Int} : daysBeforeYear y < daysBeforeYear y' ↔ y < y' :=
  incr_lt_iff (fun y => (dby_step y).1) (by omega)

/-- 400·dby(y) stays within a fixed band around 146097·(y-1970): each of the three floors in `daysBeforeYear` loses
less than one day, that is less than 400 here; 600 is a round bound on what is left when they partly cancel (the
extremes are −398 and 481) -/
theorem dby_band (y : Int) :
    146097 * (y - 1970) - 600 ≤ 400 * daysBeforeYear y ∧ 400 * daysBeforeYear y ≤ 146097 * (y - 1970) + 600 := by
  unfold daysBeforeYear; omega

/-- the estimate `y0` is off by at most one year (`dby_band`), and the two comparisons correct it -/
theorem yearOfDay_spec (n : Int) : daysBeforeYear (yearOfDay n) ≤ n ∧ n < daysBeforeYear (yearOfDay n + 1) := by
  unfold yearOfDay
  simp only
  generalize hy : 1970 + n * 400 / 146097 = y0
  have key : daysBeforeYear y0 - 1 ≤ n ∧ n ≤ daysBeforeYear y0 + 366 := by have := dby_band y0; omega
  clear hy
  have sm := dby_step (y0 - 1); have s0 := dby_step y0; have sp := dby_step (y0 + 1)
  rw [Int.sub_add_cancel] at sm
  split
  · rw [Int.sub_add_cancel]; omega
  · split <;> omega

theorem yearOfDay_eq {n y : Int} (h1 : daysBeforeYear y ≤ n) (h2 : n < daysBeforeYear (y + 1)) :
    yearOfDay n = y := by
  have s := yearOfDay_spec n
  exact Int.le_antisymm (Int.le_of_lt_add_one (dby_lt_iff.1 (Int.lt_of_le_of_lt s.1 h2)))
    (Int.le_of_lt_add_one (dby_lt_iff.1 (Int.lt_of_le_of_lt h1 s.2)))

/-! ### months -/

theorem monthLen_bounds (y : Int) (m : Nat) : 28 ≤ monthLen y m ∧ monthLen y m ≤ 31 := by
  unfold monthLen
  split <;> (try split) <;> decide

theorem dbm_succ (y : Int) (m : Nat) (hm : 1 ≤ m) :
    daysBeforeMonth y (m + 1) = daysBeforeMonth y m + monthLen y m := by
  cases m with
  | zero => omega
  | succ k => rfl

theorem dbm_one (y : Int) : daysBeforeMonth y 1 = 0 := rfl

theorem dbm_13 (y : Int) : daysBeforeMonth y 13 = yearLen y := by
  show 0 + 31 + (if isLeap y then 29 else 28) + 31 + 30 + 31 + 30 + 31 + 31 + 30 + 31 + 30 + 31 =
    if isLeap y then 366 else 365
  split <;> rfl

theorem dbm_mono (y : Int) {m m' : Nat} (h : m ≤ m') : daysBeforeMonth y m ≤ daysBeforeMonth y m' := by
  induction h with
  | refl => exact Int.le_refl _
  | @step k _ ih =>
    refine Int.le_trans ih ?_
    cases k with
    | zero => exact Int.le_refl _
    | succ j =>
      show _ ≤ daysBeforeMonth y (j + 1 + 1)
      rw [dbm_succ y (j + 1) (by omega)]; have := monthLen_bounds y (j + 1); omega

theorem monthOfDoy_spec (y doy : Int) (h13 : doy < daysBeforeMonth y 13) :
    ∀ (fuel m : Nat), 1 ≤ m → m ≤ 12 → 12 - m < fuel → daysBeforeMonth y m ≤ doy →
      ∃ r, monthOfDoy y doy fuel m = (r, doy - daysBeforeMonth y r + 1) ∧ m ≤ r ∧ r ≤ 12 ∧
        daysBeforeMonth y r ≤ doy ∧ doy < daysBeforeMonth y (r + 1) := by
  intro fuel
  induction fuel with
  | zero => intro m _ _ h; omega
  | succ f ih =>
    intro m h1 h12 hf hle
    unfold monthOfDoy
    by_cases a : 12 ≤ m
    · obtain rfl := Nat.le_antisymm h12 a
      exact ⟨12, if_pos a, a, a, hle, h13⟩
    · rw [if_neg a]
      by_cases b : doy < daysBeforeMonth y (m + 1)
      · exact ⟨m, if_pos b, Nat.le_refl m, h12, hle, b⟩
      · rw [if_neg b]
        obtain ⟨r, e, hr, h⟩ := ih (m + 1) (Nat.le_add_left 1 m) (Nat.lt_of_not_le a) (by omega) (Int.not_lt.1 b)
        exact ⟨r, e, Nat.le_of_succ_le hr, h⟩

theorem monthOfDoy_eq (y doy : Int) {m : Nat} (hm : 1 ≤ m ∧ m ≤ 12)
    (h1 : daysBeforeMonth y m ≤ doy) (h2 : doy < daysBeforeMonth y (m + 1)) :
    monthOfDoy y doy 12 1 = (m, doy - daysBeforeMonth y m + 1) := by
  obtain ⟨r, e, _, _, c, d⟩ := monthOfDoy_spec y doy (Int.lt_of_lt_of_le h2 (dbm_mono y (Nat.succ_le_succ hm.2)))
    12 1 (by decide) (by decide) (by decide) (Int.le_trans (dbm_mono y hm.1) h1)
  have a : ¬ r < m := fun a => Int.not_le.2 d (Int.le_trans (dbm_mono y a) h1)
  have b : ¬ m < r := fun b => Int.not_le.2 h2 (Int.le_trans (dbm_mono y b) c)
  rw [e, show r = m by omega]

/-! ### civil dates -/

theorem civil_def (n : Int) :
    civil n = (yearOfDay n, monthOfDoy (yearOfDay n) (n - daysBeforeYear (yearOfDay n)) 12 1) := by
  simp only [civil]

theorem civil_valid (n : Int) :
    1 ≤ (civil n).2.1 ∧ (civil n).2.1 ≤ 12 ∧ 1 ≤ (civil n).2.2 ∧ (civil n).2.2 ≤ monthLen (civil n).1 (civil n).2.1 ∧
    dayNumber (civil n).1 (civil n).2.1 (civil n).2.2 = n := by
  rw [civil_def]
  obtain ⟨hy1, hy2⟩ := yearOfDay_spec n
  generalize yearOfDay n = y at hy1 hy2 ⊢
  rw [daysBeforeYear_succ, ← dbm_13] at hy2
  obtain ⟨r, e, a, b, c, d⟩ := monthOfDoy_spec y (n - daysBeforeYear y) (Int.sub_left_lt_of_lt_add hy2) 12 1
    (by decide) (by decide) (by decide) (Int.sub_nonneg_of_le hy1)
  rw [dbm_succ y r a] at d
  rw [e]
  simp only [dayNumber]
  exact ⟨a, b, by omega, by omega, by omega⟩

theorem civil_dayNumber (y : Int) (m : Nat) (d : Int) (hm : 1 ≤ m ∧ m ≤ 12) (hd : 1 ≤ d ∧ d ≤ monthLen y m) :
    civil (dayNumber y m d) = (y, m, d) := by
  have hdoy : dayNumber y m d - daysBeforeYear y = daysBeforeMonth y m + (d - 1) := by unfold dayNumber; omega
  have n0 : 0 ≤ daysBeforeMonth y m := dbm_mono y (Nat.zero_le m)
  have l13 := dbm_mono y (Nat.succ_le_succ hm.2)
  rw [dbm_13, dbm_succ y m hm.1] at l13
  rw [civil_def, yearOfDay_eq (y := y) (by omega) (by rw [daysBeforeYear_succ]; omega), hdoy,
    monthOfDoy_eq y _ hm (Int.le_add_of_nonneg_right (Int.sub_nonneg_of_le hd.1))
      (by rw [dbm_succ y m hm.1]; exact Int.add_lt_add_left (Int.sub_one_lt_of_le hd.2) _)]
  congr 2; omega

/-! ### milliseconds and day numbers -/

theorem msPerDay_pos : 0 < msPerDay := by decide

theorem mul_ms_div (n : Int) : n * msPerDay / msPerDay = n := Int.mul_ediv_cancel n (Int.ne_of_gt msPerDay_pos)
theorem mul_ms_mod (n : Int) : n * msPerDay % msPerDay = 0 := Int.mul_emod_left n msPerDay
theorem div_mul_ms_le (t : Int) : t / msPerDay * msPerDay ≤ t := Int.ediv_mul_le t (Int.ne_of_gt msPerDay_pos)
theorem ms_le_of_le_div {n t : Int} (h : n ≤ t / msPerDay) : n * msPerDay ≤ t :=
  (Int.le_ediv_iff_mul_le msPerDay_pos).1 h
theorem lt_ms_of_div_lt {n t : Int} (h : t / msPerDay < n) : t < n * msPerDay :=
  (Int.ediv_lt_iff_lt_mul msPerDay_pos).1 h
theorem eq_div_mul_ms {b : Int} (h : b % msPerDay = 0) : b = b / msPerDay * msPerDay :=
  (Int.ediv_mul_cancel (Int.dvd_of_emod_eq_zero h)).symm

/-! ### month index: `i = 12·year + (month − 1)` -/

theorem dayNumber_jan1 (y : Int) : dayNumber y 1 1 = daysBeforeYear y := by
  unfold dayNumber; rw [dbm_one]; omega

theorem dayNumber_succ_month (y : Int) (m : Nat) (hm : 1 ≤ m) :
    dayNumber y (m + 1) 1 = dayNumber y m 1 + monthLen y m := by
  unfold dayNumber; rw [dbm_succ y m hm]; omega

theorem dayNumber_13 (y : Int) : dayNumber y 13 1 = dayNumber (y + 1) 1 1 := by
  unfold dayNumber; rw [dbm_13, dbm_one, daysBeforeYear_succ]; omega

/-- day number of the first day of the month with index `i` -/
def fom (i : Int) : Int := dayNumber (i / 12) ((i % 12).toNat + 1) 1

theorem idx_div (y : Int) (r : Nat) (hr : r < 12) : (12 * y + r) / 12 = y := by
  have hr' : (r : Int) < 12 := Int.ofNat_lt.2 hr
  rw [Int.add_comm, Int.add_mul_ediv_left _ _ (by decide), Int.ediv_eq_zero_of_lt (Int.natCast_nonneg r) hr',
    Int.zero_add]

theorem idx_mod (y : Int) (r : Nat) (hr : r < 12) : ((12 * y + r) % 12).toNat = r := by
  have hr' : (r : Int) < 12 := Int.ofNat_lt.2 hr
  rw [Int.add_comm, Int.add_mul_emod_self_left, Int.emod_eq_of_lt (Int.natCast_nonneg r) hr', Int.toNat_natCast]

/-- every index has the form `12 * y + r` with `r < 12`; with this the proofs below need no more division -/
theorem idx_split (i : Int) : (i % 12).toNat < 12 ∧ i = 12 * (i / 12) + ((i % 12).toNat : Int) := by
  have h := Int.toNat_of_nonneg (Int.emod_nonneg i (show (12 : Int) ≠ 0 by decide))
  exact ⟨Int.ofNat_lt.1 (by rw [h]; exact Int.emod_lt_of_pos i (by decide)),
    by rw [h]; exact (Int.mul_ediv_add_emod i 12).symm⟩

theorem fom_mk (y : Int) (r : Nat) (hr : r < 12) : fom (12 * y + r) = dayNumber y (r + 1) 1 := by
  unfold fom; rw [idx_div y r hr, idx_mod y r hr]

theorem fom_carry (y mm : Int) : dayNumber (y + mm / 12) ((mm % 12).toNat + 1) 1 = fom (12 * y + mm) := by
  unfold fom
  rw [Int.add_comm (12 * y), Int.add_mul_ediv_left _ _ (by decide), Int.add_mul_emod_self_left, Int.add_comm y]

def mlen (i : Int) : Int := monthLen (i / 12) ((i % 12).toNat + 1)

theorem mlen_bounds (i : Int) : 28 ≤ mlen i ∧ mlen i ≤ 31 := monthLen_bounds _ _

theorem fom_succ (i : Int) : fom (i + 1) = fom i + mlen i := by
  obtain ⟨hr, hi⟩ := idx_split i
  unfold mlen
  generalize i / 12 = y at *
  generalize (i % 12).toNat = r at *
  subst hi
  rw [fom_mk y r hr, ← dayNumber_succ_month y (r + 1) (by omega)]
  by_cases h : r = 11
  · subst h
    rw [show 12 * y + ((11 : Nat) : Int) + 1 = 12 * (y + 1) + ((0 : Nat) : Int) by omega, fom_mk _ 0 (by omega)]
    exact (dayNumber_13 y).symm
  · rw [Int.add_assoc, ← Int.natCast_succ, fom_mk _ _ (by omega)]

theorem fom_step (i : Int) : fom i + 28 ≤ fom (i + 1) ∧ fom (i + 1) ≤ fom i + 31 := by
  rw [fom_succ]; have := mlen_bounds i; omega

theorem civil_cell {n i : Int} (h1 : fom i ≤ n) (h2 : n < fom (i + 1)) :
    civil n = (i / 12, (i % 12).toNat + 1, n - fom i + 1) := by
  rw [fom_succ] at h2
  have e : n = dayNumber (i / 12) ((i % 12).toNat + 1) (n - fom i + 1) := by unfold fom dayNumber; omega
  exact (congrArg civil e).trans
    (civil_dayNumber _ _ _ ⟨Nat.le_add_left 1 _, (idx_split i).1⟩ ⟨by omega, by unfold mlen at h2; omega⟩)

theorem civil_fom (i : Int) : civil (fom i) = (i / 12, (i % 12).toNat + 1, 1) := by
  have := civil_cell (Int.le_refl (fom i)) (by have := fom_step i; omega)
  rwa [Int.sub_self, Int.zero_add] at this

theorem civil_dby (y : Int) : civil (daysBeforeYear y) = (y, 1, 1) := by
  rw [← dayNumber_jan1]
  exact civil_dayNumber y 1 1 (by decide) ⟨Int.le_refl 1, Int.le_trans (by decide) (monthLen_bounds y 1).1⟩

def monthIdx (n : Int) : Int := 12 * (civil n).1 + (((civil n).2.1 : Int) - 1)

theorem monthIdx_split (n : Int) :
    (civil n).2.1 - 1 < 12 ∧ monthIdx n = 12 * (civil n).1 + (((civil n).2.1 - 1 : Nat) : Int) ∧
      (civil n).2.1 - 1 + 1 = (civil n).2.1 := by
  obtain ⟨a, b, _⟩ := civil_valid n; unfold monthIdx; omega

theorem monthIdx_div (n : Int) : monthIdx n / 12 = (civil n).1 := by
  obtain ⟨a, b, _⟩ := monthIdx_split n; rw [b, idx_div _ _ a]

theorem monthIdx_mod (n : Int) : (monthIdx n % 12).toNat + 1 = (civil n).2.1 := by
  obtain ⟨a, b, c⟩ := monthIdx_split n; rw [b, idx_mod _ _ a, c]

theorem fom_monthIdx (n : Int) : fom (monthIdx n) = dayNumber (civil n).1 (civil n).2.1 1 := by
  unfold fom; rw [monthIdx_div, monthIdx_mod]

theorem monthIdx_cell (n : Int) : fom (monthIdx n) ≤ n ∧ n < fom (monthIdx n + 1) := by
  rw [fom_succ, mlen, fom_monthIdx, monthIdx_div, monthIdx_mod]
  obtain ⟨_, _, c, d, e⟩ := civil_valid n
  unfold dayNumber at *; omega

/-! ### every unit's boundaries form a grid `g : ℤ → ℤ` -/

/-- `g` enumerates the boundaries of `u` in increasing order and `idx t` is the index of the cell `[g i, g (i + 1))`
that holds `t` (`floor_le`, `floor_lt`) -/
structure Grid (u : TUnit) (g : Int → Int) (idx : Int → Int) : Prop where
  bdry : ∀ b, isBoundary u b = true ↔ ∃ i, b = g i
  floor_eq : ∀ t, floorU u t = g (idx t)
  floor_le : ∀ t, g (idx t) ≤ t
  floor_lt : ∀ t, t < g (idx t + 1)
  step_eq : ∀ i k, stepU u (g i) k = g (i + k)
  gap : ∀ i, g i + minUnitMs u ≤ g (i + 1)

theorem grid_mul {u : TUnit} {c : Int} (hc : 0 < c) (hb : ∀ b, isBoundary u b = (b % c == 0))
    (hf : ∀ t, floorU u t = t / c * c) (hs : ∀ t k, stepU u t k = t + k * c) (hm : minUnitMs u = c) :
    Grid u (fun i => i * c) (fun t => t / c) where
  bdry b := by
    rw [hb, beq_iff_eq]
    constructor
    · intro h; exact ⟨b / c, (Int.ediv_mul_cancel (Int.dvd_of_emod_eq_zero h)).symm⟩
    · rintro ⟨i, rfl⟩; exact Int.mul_emod_left i c
  floor_eq := hf
  floor_le t := Int.ediv_mul_le t (Int.ne_of_gt hc)
  floor_lt t := Int.lt_ediv_add_one_mul_self t hc
  step_eq i k := by rw [hs, Int.add_mul]
  gap i := by rw [hm, Int.add_mul, Int.one_mul]; exact Int.le_refl _

theorem grid_second : Grid .second (fun i => i * 1000) (fun t => t / 1000) :=
  grid_mul (by decide) (fun _ => rfl) (fun _ => rfl) (fun _ _ => rfl) rfl

theorem grid_minute : Grid .minute (fun i => i * 60000) (fun t => t / 60000) :=
  grid_mul (by decide) (fun _ => rfl) (fun _ => rfl) (fun _ _ => rfl) rfl

theorem grid_hour : Grid .hour (fun i => i * 3600000) (fun t => t / 3600000) :=
  grid_mul (by decide) (fun _ => rfl) (fun _ => rfl) (fun _ _ => rfl) rfl

theorem grid_day : Grid .day (fun i => i * 86400000) (fun t => t / 86400000) :=
  grid_mul (by decide) (fun _ => rfl) (fun _ => rfl) (fun _ _ => rfl) rfl

/-- Sundays are the day numbers `7 * i + 3`, and `(d + 4) / 7 - 1` is the week that contains day `d` -/
theorem week_cell (d : Int) :
    d - (d + 4) % 7 = 7 * ((d + 4) / 7 - 1) + 3 ∧ 7 * ((d + 4) / 7 - 1) + 3 ≤ d ∧
      d < 7 * ((d + 4) / 7 - 1 + 1) + 3 := by
  omega

theorem grid_week :
    Grid .week (fun i => (7 * i + 3) * 86400000) (fun t => (t / 86400000 + 4) / 7 - 1) where
  bdry b := by
    simp only [isBoundary, beq_iff_eq, weekdaySun0, Bool.and_eq_true]
    constructor
    · rintro ⟨h1, h2⟩
      have := (week_cell (b / msPerDay)).1
      rw [h2, Int.sub_zero] at this
      exact ⟨_, by rw [← this]; exact eq_div_mul_ms h1⟩
    · rintro ⟨i, rfl⟩
      exact ⟨mul_ms_mod _, by rw [show (7 * i + 3) * 86400000 / msPerDay = 7 * i + 3 from mul_ms_div _]; omega⟩
  floor_eq t := by simp only [floorU, weekdaySun0]; rw [(week_cell _).1]; rfl
  floor_le t := ms_le_of_le_div (week_cell _).2.1
  floor_lt t := lt_ms_of_div_lt (week_cell _).2.2
  step_eq i k := by simp only [stepU, msPerDay]; omega
  gap i := by simp only [minUnitMs, unitMs]; omega

theorem grid_month : Grid .month (fun i => fom i * msPerDay) (fun t => monthIdx (t / msPerDay)) where
  bdry b := by
    simp only [isBoundary, beq_iff_eq, Bool.and_eq_true]
    constructor
    · rintro ⟨h1, h2⟩
      refine ⟨monthIdx (b / msPerDay), ?_⟩
      have v := (civil_valid (b / msPerDay)).2.2.2.2
      rw [h2] at v
      rw [fom_monthIdx, v]
      exact eq_div_mul_ms h1
    · rintro ⟨i, rfl⟩
      rw [mul_ms_div, mul_ms_mod, civil_fom]
      exact ⟨rfl, rfl⟩
  floor_eq t := by simp only [floorU]; rw [fom_monthIdx]
  floor_le t := ms_le_of_le_div (monthIdx_cell _).1
  floor_lt t := lt_ms_of_div_lt (monthIdx_cell _).2
  step_eq i k := by
    simp only [stepU]
    rw [mul_ms_div, civil_fom]
    simp only
    rw [Int.sub_self, Int.add_zero, fom_carry, Int.natCast_add, Int.natCast_one, Int.add_sub_cancel, ← Int.add_assoc,
      ← (idx_split i).2]
  gap i := by
    have := fom_step i
    simp only [minUnitMs, msPerDay]; omega

theorem grid_year :
    Grid .year (fun y => daysBeforeYear y * msPerDay) (fun t => yearOfDay (t / msPerDay)) where
  bdry b := by
    simp only [isBoundary, beq_iff_eq, Bool.and_eq_true]
    constructor
    · rintro ⟨⟨h1, h2⟩, h3⟩
      refine ⟨(civil (b / msPerDay)).1, ?_⟩
      have v := (civil_valid (b / msPerDay)).2.2.2.2
      rw [h2, h3, dayNumber_jan1] at v
      rw [v]
      exact eq_div_mul_ms h1
    · rintro ⟨i, rfl⟩
      rw [mul_ms_div, mul_ms_mod, civil_dby]
      exact ⟨⟨rfl, rfl⟩, rfl⟩
  floor_eq t := by simp only [floorU]; rw [dayNumber_jan1, civil_def]
  floor_le t := ms_le_of_le_div (yearOfDay_spec _).1
  floor_lt t := lt_ms_of_div_lt (yearOfDay_spec _).2
  step_eq i k := by
    simp only [stepU]
    rw [mul_ms_div, civil_dby]
    simp only
    rw [dayNumber_jan1, Int.sub_self, Int.add_zero]
  gap i := by
    have := dby_step i
    simp only [minUnitMs, msPerDay]; omega

theorem grid_exists (u : TUnit) : ∃ g idx, Grid u g idx := by
  cases u
  · exact ⟨_, _, grid_second⟩
  · exact ⟨_, _, grid_minute⟩
  · exact ⟨_, _, grid_hour⟩
  · exact ⟨_, _, grid_day⟩
  · exact ⟨_, _, grid_week⟩
  · exact ⟨_, _, grid_month⟩
  · exact ⟨_, _, grid_year⟩

/-! ### strictly increasing lists -/

theorem sincr_iff_pairwise (l : List Int) : strictlyIncreasingB l = true ↔ l.Pairwise (· < ·) := by
  induction l with
  | nil => simp [strictlyIncreasingB]
  | cons a r ih =>
    cases r with
    | nil => simp [strictlyIncreasingB]
    | cons b r' =>
      rw [List.pairwise_cons, ← ih]
      simp only [strictlyIncreasingB, Bool.and_eq_true, decide_eq_true_eq]
      constructor
      · rintro ⟨hab, hr⟩
        refine ⟨?_, hr⟩
        intro x hx
        rcases List.mem_cons.1 hx with rfl | hx'
        · exact hab
        · have := (List.pairwise_cons.1 (ih.1 hr)).1 x hx'
          omega
      · rintro ⟨h, hr⟩
        exact ⟨h b List.mem_cons_self, hr⟩

theorem sincr_filter (p : Int → Bool) {l : List Int} (h : strictlyIncreasingB l = true) :
    strictlyIncreasingB (l.filter p) = true :=
  (sincr_iff_pairwise _).2 (((sincr_iff_pairwise _).1 h).filter p)

theorem sincr_cons {a : Int} {l : List Int} (h : strictlyIncreasingB l = true) (hl : ∀ x ∈ l, a < x) :
    strictlyIncreasingB (a :: l) = true := by
  cases l with
  | nil => rfl
  | cons b r =>
    have := hl b List.mem_cons_self
    simp [strictlyIncreasingB, h, this]

theorem sincr_ext (l1 l2 : List Int) (h1 : l1.Pairwise (· < ·)) (h2 : l2.Pairwise (· < ·))
    (h : ∀ x, x ∈ l1 ↔ x ∈ l2) : l1 = l2 :=
  List.Perm.eq_of_pairwise (fun _ _ _ _ hab hba => absurd hab (Int.lt_asymm hba)) h1 h2
    ((List.perm_ext_iff_of_nodup (h1.imp Int.ne_of_lt) (h2.imp Int.ne_of_lt)).2 h)

/-! ### consequences that hold on any grid -/

theorem minUnitMs_pos (u : TUnit) : 0 < minUnitMs u := by cases u <;> decide

namespace Grid
variable {u : TUnit} {g idx : Int → Int}

theorem le_of_le (G : Grid u g idx) {i j : Int} (h : i ≤ j) : g i ≤ g j :=
  incr_le G.gap (Int.le_of_lt (minUnitMs_pos u)) h

theorem lt_iff (G : Grid u g idx) {i j : Int} : g i < g j ↔ i < j :=
  incr_lt_iff G.gap (minUnitMs_pos u)

theorem lt_succ (G : Grid u g idx) (i : Int) : g i < g (i + 1) := G.lt_iff.2 (Int.lt_succ i)

theorem le_idx (G : Grid u g idx) {t i : Int} (h : g i ≤ t) : i ≤ idx t :=
  Int.le_of_lt_add_one (G.lt_iff.1 (Int.lt_of_le_of_lt h (G.floor_lt t)))

theorem idx_lt (G : Grid u g idx) {t i : Int} (h : t < g i) : idx t < i :=
  G.lt_iff.1 (Int.lt_of_le_of_lt (G.floor_le t) h)

theorem idx_eq (G : Grid u g idx) {t i : Int} (h1 : g i ≤ t) (h2 : t < g (i + 1)) : idx t = i :=
  Int.le_antisymm (Int.le_of_lt_add_one (G.idx_lt h2)) (G.le_idx h1)

theorem isB (G : Grid u g idx) (i : Int) : isBoundary u (g i) = true := (G.bdry _).2 ⟨i, rfl⟩

theorem isFloor (G : Grid u g idx) (t : Int) : IsFloor u t (floorU u t) := by
  rw [G.floor_eq]
  refine ⟨G.isB _, G.floor_le t, ?_⟩
  intro b hb hbt
  obtain ⟨j, rfl⟩ := (G.bdry b).1 hb
  exact G.le_of_le (G.le_idx hbt)

theorem isNext (G : Grid u g idx) (b : Int) (hb : isBoundary u b = true) : IsNext u b (stepU u b 1) := by
  obtain ⟨i, rfl⟩ := (G.bdry b).1 hb
  rw [G.step_eq]
  refine ⟨G.isB _, G.lt_succ i, ?_⟩
  intro x hx hlt
  obtain ⟨j, rfl⟩ := (G.bdry x).1 hx
  exact G.le_of_le (G.lt_iff.1 hlt)

theorem step_add (G : Grid u g idx) (b : Int) (hb : isBoundary u b = true) (j k : Nat) :
    stepU u (stepU u b j) k = stepU u b ((j + k : Nat) : Int) := by
  obtain ⟨i, rfl⟩ := (G.bdry b).1 hb
  rw [G.step_eq, G.step_eq, G.step_eq, Int.add_assoc, Int.natCast_add]

theorem step_zero (G : Grid u g idx) (b : Int) (hb : isBoundary u b = true) : stepU u b 0 = b := by
  obtain ⟨i, rfl⟩ := (G.bdry b).1 hb
  rw [G.step_eq, Int.add_zero]

theorem step_boundary (G : Grid u g idx) (b : Int) (hb : isBoundary u b = true) (k : Nat) :
    isBoundary u (stepU u b k) = true := by
  obtain ⟨i, rfl⟩ := (G.bdry b).1 hb
  rw [G.step_eq]; exact G.isB _

theorem ceil_eq (G : Grid u g idx) (t : Int) : ceilU u t = g (idx (t - 1) + 1) := by
  unfold ceilU; rw [G.floor_eq, G.step_eq]

theorem floor_pred (G : Grid u g idx) (i : Int) : floorU u (g i - 1) = g (i - 1) := by
  have := G.lt_succ (i - 1)
  rw [Int.sub_add_cancel] at this
  rw [G.floor_eq, G.idx_eq (i := i - 1) (by omega) (by rw [Int.sub_add_cancel]; omega)]

theorem ceil_succ (G : Grid u g idx) (i : Int) : ceilU u (g i + 1) = g (i + 1) := by
  rw [G.ceil_eq, Int.add_sub_cancel, G.idx_eq (Int.le_refl _) (G.lt_succ i)]

theorem isCeil (G : Grid u g idx) (t : Int) : IsCeil u t (ceilU u t) := by
  rw [G.ceil_eq]
  have h1 := G.floor_lt (t - 1)
  refine ⟨G.isB _, by omega, ?_⟩
  intro b hb hbt
  obtain ⟨j, rfl⟩ := (G.bdry b).1 hb
  exact G.le_of_le (G.idx_lt (show t - 1 < g j by omega))

theorem lt_step_floor (G : Grid u g idx) (t : Int) : t < stepU u (floorU u t) 1 := by
  rw [G.floor_eq, G.step_eq]; exact G.floor_lt t

theorem mem_rangeLoop (G : Grid u g idx) (t1 dt : Int) : ∀ (fuel : Nat) (i : Int) (x : Int),
    x ∈ rangeLoop u t1 dt fuel (g i) ↔
      ∃ k : Nat, k < fuel ∧ x = g (i + k) ∧ x < t1 ∧ (dt ≤ 1 ∨ numberU u x % dt = 0) := by
  intro fuel
  induction fuel with
  | zero => intro i x; simp [rangeLoop]
  | succ n ih =>
    intro i x
    rw [Nat.exists_lt_succ_left, rangeLoop]
    simp only [Int.natCast_zero, Int.add_zero, Int.natCast_succ]
    by_cases h : g i < t1
    · rw [if_pos h, G.step_eq, List.mem_append, ih]
      simp only [Int.add_assoc, Int.add_comm 1]
      apply or_congr_left
      constructor
      · intro hx
        split at hx
        · rename_i f; rw [List.mem_singleton.1 hx]; exact ⟨rfl, h, f⟩
        · nomatch hx
      · rintro ⟨rfl, _, f⟩; rw [if_pos f]; exact List.mem_singleton.2 rfl
    · rw [if_neg h]
      constructor
      · intro hx; nomatch hx
      · rintro (⟨rfl, hlt, _⟩ | ⟨k, _, rfl, hlt, _⟩)
        · exact absurd hlt h
        · exact absurd (Int.lt_of_le_of_lt (G.le_of_le (Int.le_add_of_nonneg_right (Int.natCast_nonneg _))) hlt) h

theorem rangeLoop_incr (G : Grid u g idx) (t1 dt : Int) : ∀ (fuel : Nat) (i : Int),
    strictlyIncreasingB (rangeLoop u t1 dt fuel (g i)) = true := by
  intro fuel
  induction fuel with
  | zero => intro i; rfl
  | succ n ih =>
    intro i
    unfold rangeLoop
    split
    · rw [G.step_eq]
      split
      · rw [List.singleton_append]
        apply sincr_cons (ih _)
        intro x hx
        rw [G.mem_rangeLoop] at hx
        obtain ⟨k, _, rfl, _⟩ := hx
        exact G.lt_iff.2 (by omega)
      · rw [List.nil_append]; exact ih _
    · rfl

/-- `k` steps of at least `minUnitMs u` each fit below `t1`, so the fuel of `rangeU` reaches `g (i + k)` -/
theorem fuel_suffices (G : Grid u g idx) {i t1 : Int} {k : Nat} (h : g (i + k) < t1) :
    k < ((t1 - g i) / minUnitMs u + 2).toNat := by
  have A := incr_add_le G.gap i k
  have B : (k : Int) ≤ (t1 - g i) / minUnitMs u :=
    (Int.le_ediv_iff_mul_le (minUnitMs_pos u)).2 (by rw [Int.mul_comm]; omega)
  omega

theorem range_mem (G : Grid u g idx) (t0 t1 dt : Int) (x : Int) :
    x ∈ rangeU u t0 t1 dt ↔
      (isBoundary u x = true ∧ t0 ≤ x ∧ x < t1 ∧ (dt ≤ 1 ∨ numberU u x % dt = 0)) := by
  unfold rangeU
  rw [G.ceil_eq, G.mem_rangeLoop]
  have h1 := G.floor_lt (t0 - 1)
  have h0 := G.floor_le (t0 - 1)
  generalize idx (t0 - 1) = i0 at h0 h1
  constructor
  · rintro ⟨k, hk, rfl, hlt, hf⟩
    exact ⟨G.isB _, Int.le_trans (Int.le_of_sub_one_lt h1)
      (G.le_of_le (Int.le_add_of_nonneg_right (Int.natCast_nonneg k))), hlt, hf⟩
  · rintro ⟨hb, hx0, hx1, hf⟩
    obtain ⟨j, rfl⟩ := (G.bdry x).1 hb
    obtain ⟨k, rfl⟩ := Int.le.dest (G.lt_iff.1 (Int.lt_of_le_of_lt h0 (Int.sub_one_lt_of_le hx0)))
    exact ⟨k, G.fuel_suffices hx1, rfl, hx1, hf⟩

theorem range_increasing (G : Grid u g idx) (t0 t1 dt : Int) :
    strictlyIncreasingB (rangeU u t0 t1 dt) = true := by
  unfold rangeU
  simp only
  rw [G.ceil_eq]
  exact G.rangeLoop_incr _ _ _ _

end Grid

theorem floorU_spec (u : TUnit) (t : Int) : IsFloor u t (floorU u t) :=
  let ⟨_, _, G⟩ := grid_exists u; G.isFloor t

theorem ceilU_spec (u : TUnit) (t : Int) : IsCeil u t (ceilU u t) :=
  let ⟨_, _, G⟩ := grid_exists u; G.isCeil t

theorem rangeU_mem (u : TUnit) (t0 t1 dt x : Int) :
    x ∈ rangeU u t0 t1 dt ↔ (isBoundary u x = true ∧ t0 ≤ x ∧ x < t1 ∧ (dt ≤ 1 ∨ numberU u x % dt = 0)) :=
  let ⟨_, _, G⟩ := grid_exists u; G.range_mem t0 t1 dt x

theorem rangeU_increasing (u : TUnit) (t0 t1 dt : Int) : strictlyIncreasingB (rangeU u t0 t1 dt) = true :=
  let ⟨_, _, G⟩ := grid_exists u; G.range_increasing t0 t1 dt

end Labella.Calendar
