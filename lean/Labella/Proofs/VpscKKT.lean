import Labella.Proofs.VpscKKTTree
import Labella.Proofs.QPLemmas
import Labella.Proofs.VpscResolve
/-! # Optimality half of C05 for the transliterated general solver (`Model/Vpsc.lean`)

In a state that satisfies the solver's invariants (`Inv2`; positive weights `PosW`), the multipliers `Vpsc.multipliers st`
(recomputed by `findMinLM` on every block; 0 on constraints that are not active) and the positions `Vpsc.positions st` satisfy
the KKT stationarity condition of the problem `instOf st` (`multipliers_stationary`, `vpsc_kkt_bound`).

From the tree lemma `KKT.computeLm_post` (`Proofs/VpscKKTTree.lean`):
* `KKT.block_stationary`: `StatsInv` gives `Σ_{i ∈ block} dfdv i / s_i = 0`;
* `KKT.findMinLM_block`: after `findMinLM` on a block every variable of the block is balanced (the value returned at the
  root is that block sum, shown to be 0 by summing the balance equations over the block);
* `KKT.multipliers_fold`: `findMinLM` over the whole block list leaves every variable balanced.

The last section reads cost, slack and problem data of a state in the vocabulary of `QP`, for a state that holds a given instance
(`Data`); the test vectors of `Props/C05.lean` are at the end. -/
namespace Labella.Vpsc

/-- positive weights: `QP.wellFormedB` asks for them, and they make `A2 > 0`, so that `posn = (AD - AB) / A2` is the
stationary point of the block (`block_stationary`) -/
def PosW (st : St) : Prop := ∀ v, v < st.vs.size → 0 < (getV st v).w

theorem PosW.of_frame {st st' : St} (h : Frame st st') (hu : PosW st) : PosW st' := by
  intro v hv
  rw [h.vsize] at hv
  rw [(h.vstat v).2.1]
  exact hu v hv

namespace KKT
open FrameAux Finset

theorem block_stationary {st : St} (hinv : Inv st) (hstats : StatsInv st)
    (hw : PosW st) {v : Nat} (hv : v < st.vs.size) :
    ((getB st (getV st v).block).vars.map fun i => dfdv st i / (getV st i).s).sum = 0 := by
  obtain ⟨hS, hAB, hAD, hA2, hP⟩ := hstats v hv
  have hmem := hinv.members v hv
  generalize hb : (getV st v).block = b at *
  generalize hB : getB st b = B at *
  have hA2pos : 0 < B.A2 := by
    rw [hA2]
    refine List.sum_pos _ (fun x hx => ?_) (by simpa using List.ne_nil_of_mem ((hmem v).2 ⟨hv, hb⟩))
    obtain ⟨i, hi, rfl⟩ := List.mem_map.1 hx
    obtain ⟨hi1, _⟩ := (hmem i).1 hi
    rw [mul_assoc]
    exact mul_pos (hw i hi1) (mul_self_pos.2 (div_ne_zero hS (hinv.wf.scale_ne i hi1)))
  -- with `a = scale / s_i`, `b = offset_i / s_i`: `scale · dfdv_i / s_i = 2 (posn · w a² + w a b − w a d_i)`
  have hterm : ∀ i ∈ B.vars, B.scale * (dfdv st i / (getV st i).s) =
      2 * (B.posn * ((getV st i).w * (B.scale / (getV st i).s) * (B.scale / (getV st i).s))
        + (getV st i).w * (B.scale / (getV st i).s) * ((getV st i).offset / (getV st i).s)
        - (getV st i).w * (B.scale / (getV st i).s) * (getV st i).d) := by
    intro i hi
    unfold dfdv position
    simp only [((hmem i).1 hi).2, hB, Gen.dfdvFactor]
    ring
  have hsum : B.scale * (B.vars.map fun i => dfdv st i / (getV st i).s).sum = 0 := by
    rw [← List.sum_map_mul_left, List.map_congr_left hterm, List.sum_map_mul_left, QP.list_sum_map_sub, List.sum_map_add,
      List.sum_map_mul_left]
    change 2 * (B.posn * sumA2 st B + sumAB st B - sumAD st B) = 0
    rw [← hA2, ← hAB, ← hAD, hP, getPosn, div_mul_cancel₀ _ hA2pos.ne']
    ring
  exact (mul_eq_zero.1 hsum).resolve_left hS

theorem list_range_sum (n : Nat) (f : Nat → Rat) : ((List.range n).map f).sum = ∑ i ∈ range n, f i := rfl

theorem exchange (s0 s : St) (n : Nat) (a : Nat → Rat) (L : List Nat)
    (hL : ∀ c ∈ L, (getC s0 c).l < n ∧ (getC s0 c).r < n) :
    ∑ i ∈ range n, a i * (L.map fun c => lam s0 s c * coef s0 i c).sum =
      (L.map fun c => lam s0 s c *
        ((getV s0 (getC s0 c).r).s * a (getC s0 c).r - (getV s0 (getC s0 c).l).s * a (getC s0 c).l)).sum := by
  unfold coef
  exact QP.sum_mul_ends n a (fun i => (getV s0 i).s) (fun c => (getC s0 c).l) (fun c => (getC s0 c).r) (lam s0 s) L hL

/-- the balance equations added up with weights `a`: every constraint contributes its multiplier times `s_r·a_r − s_l·a_l` -/
theorem sum_mul_netVx {st : St} (hwf : WF st) (s : St) (a : Nat → Rat) :
    ∑ i ∈ range st.vs.size, a i * netVx st s none i =
      ((List.range st.cs.size).map fun c => lam st s c *
        ((getV st (getC st c).r).s * a (getC st c).r - (getV st (getC st c).l).s * a (getC st c).l)).sum := by
  simp only [netVx_none]
  exact exchange st s st.vs.size a _ fun c hc => hwf.lr c (List.mem_range.1 hc)

theorem block_sum {st : St} (hinv : Inv st) (hnd : VarsNodup st) {v : Nat} (hv : v < st.vs.size) (h : Nat → Rat) :
    ((getB st (getV st v).block).vars.map h).sum =
      ∑ x ∈ range st.vs.size, if (getV st x).block = (getV st v).block then h x else 0 := by
  rw [← list_range_sum, sum_filter_ite]
  exact ((perm_filter_range (hnd v hv) (hinv.members v hv)).map _).sum_eq

theorem conn_lt {st : St} (hwf : WFd st) {x : Option Nat} {u v : Nat} (hu : u < st.vs.size) (h : Conn st x u v) :
    v < st.vs.size := by
  induction h with
  | refl => exact hu
  | tail _ hyz _ => exact (hwf.adj_lt hyz).2

/-- The multipliers inside a block carry no net force: if every variable of the block of `v0` other than `v0` is balanced, the
imbalance `R` left at `v0` is 0.  (Add up the balance equations with weights `1 / s`: an active constraint joins two variables of
one block and drops out, and the gradients of a block add up to 0.) -/
theorem block_residual {st : St} (h : Inv2 st) (hw : PosW st) {v0 : Nat} (hv0 : v0 < st.vs.size) {s' : St} {R : Rat}
    (hbal : ∀ x, x < st.vs.size → (getV st x).block = (getV st v0).block → x ≠ v0 → netVx st s' none x = dfdv st x)
    (hroot : netVx st s' none v0 = dfdv st v0 - R) : R = 0 := by
  have hinv := h.inv
  have hex := sum_mul_netVx hinv.wf s' fun x => if (getV st x).block = (getV st v0).block then ((getV st x).s)⁻¹ else 0
  rw [List.sum_eq_zero] at hex
  · have hlhs : ∀ i ∈ range st.vs.size,
        (if (getV st i).block = (getV st v0).block then ((getV st i).s)⁻¹ else 0) * netVx st s' none i =
        (if (getV st i).block = (getV st v0).block then dfdv st i / (getV st i).s else 0) -
          (if i = v0 then R / (getV st v0).s else 0) := by
      intro i hi
      by_cases hib : (getV st i).block = (getV st v0).block
      · rw [if_pos hib, if_pos hib]
        by_cases hiv : i = v0
        · subst hiv
          rw [if_pos rfl, hroot]
          ring
        · rw [if_neg hiv, hbal i (Finset.mem_range.1 hi) hib hiv]
          ring
      · rw [if_neg hib, if_neg hib, if_neg (fun h => hib (congrArg (fun j => (getV st j).block) h)), zero_mul, sub_zero]
    rw [Finset.sum_congr rfl hlhs, Finset.sum_sub_distrib, ← block_sum hinv h.nd hv0 (fun i => dfdv st i / (getV st i).s),
      block_stationary hinv h.stats hw hv0, Finset.sum_ite_eq', if_pos (Finset.mem_range.2 hv0), zero_sub, neg_eq_zero,
      div_eq_zero_iff] at hex
    exact hex.resolve_right (hinv.wf.scale_ne v0 hv0)
  · intro t ht
    obtain ⟨c, hc, rfl⟩ := List.mem_map.1 ht
    rw [List.mem_range] at hc
    cases ha : (getC st c).active with
    | false => rw [lam_inactive ha, zero_mul]
    | true =>
      obtain ⟨h1, h2⟩ := hinv.wf.lr c hc
      rw [same_block_of_active hinv hc ha]
      split_ifs
      · rw [mul_inv_cancel₀ (hinv.wf.scale_ne _ h2), mul_inv_cancel₀ (hinv.wf.scale_ne _ h1), sub_self, mul_zero]
      · rw [mul_zero, mul_zero, sub_self, mul_zero]

theorem findMinLM_block {st : St} (h : Inv2 st) (hw : PosW st) {s : St} (hs : LmOnly st s) {v : Nat} (hv : v < st.vs.size)
    (herr : (findMinLM s (getV st v).block).1.err = false) :
    LmOnly st (findMinLM s (getV st v).block).1 ∧
    (∀ c2, ¬ ((getC st c2).active = true ∧ (getV st (getC st c2).l).block = (getV st v).block) →
      (getC (findMinLM s (getV st v).block).1 c2).lm = (getC s c2).lm) ∧
    (∀ x, x < st.vs.size → (getV st x).block = (getV st v).block →
      netVx st (findMinLM s (getV st v).block).1 none x = dfdv st x) := by
  have hinv := h.inv
  unfold findMinLM at herr ⊢
  rw [hs.getB] at herr ⊢
  have hvmem : v ∈ (getB st (getV st v).block).vars := (hinv.members v hv v).2 ⟨hv, rfl⟩
  split at herr
  · exact absurd herr (by simp)
  · next v0 rest hvars =>
    simp only at herr ⊢
    have hv0mem : v0 ∈ (getB st (getV st v).block).vars := by rw [hvars]; exact List.mem_cons_self ..
    obtain ⟨hv0, hb0⟩ := (hinv.members v hv v0).1 hv0mem
    have P := computeLm_post hinv h.adj true (travFuel s) s none v0 none none hs hv0 (Or.inl ⟨rfl, rfl⟩) herr
    generalize computeLm (travFuel s) s true none v0 none = res at P herr ⊢
    obtain ⟨s', m', D⟩ := res
    simp only at P herr ⊢
    have hblk : ∀ x, x < st.vs.size → ((getV st x).block = (getV st v).block ↔ Conn st none v0 x) := by
      intro x hx
      rw [← hb0]
      constructor
      · intro h; exact (hinv.comps v0 x hv0 hx).1 h.symm
      · intro h; exact ((hinv.comps v0 x hv0 hx).2 h).symm
    refine ⟨P.lmo, ?_, ?_⟩
    · intro c2 h
      apply P.untouched
      rintro ⟨t1, _, t3⟩
      apply h
      refine ⟨t1, ?_⟩
      have hc2 := active_lt st c2 t1
      obtain ⟨h1, h2⟩ := hinv.wf.lr c2 hc2
      rcases t3 with t | t
      · exact (hblk _ h1).2 t
      · rw [same_block_of_active hinv hc2 t1]; exact (hblk _ h2).2 t
    · have hD : (getV st v0).s * D = 0 :=
        block_residual h hw hv0 (fun x hx hxb hxv => P.below x ((hblk x hx).1 (hxb.trans hb0)) hxv) P.atv
      intro x hx hxb
      by_cases hxv : x = v0
      · rw [hxv, P.atv, hD, sub_zero]
      · exact P.below x ((hblk x hx).1 hxb) hxv

theorem multipliers_fold {st : St} (h : Inv2 st) (hw : PosW st) :
    ∀ (l : List Nat) (s : St), LmOnly st s → l.Nodup → (∀ b ∈ l, ∃ v, v < st.vs.size ∧ (getV st v).block = b) →
      (l.foldl (fun st b => (findMinLM st b).1) s).err = false →
      LmOnly st (l.foldl (fun st b => (findMinLM st b).1) s) ∧
      (∀ c2, ¬ ((getC st c2).active = true ∧ (getV st (getC st c2).l).block ∈ l) →
        (getC (l.foldl (fun st b => (findMinLM st b).1) s) c2).lm = (getC s c2).lm) ∧
      (∀ x, x < st.vs.size → (getV st x).block ∈ l →
        netVx st (l.foldl (fun st b => (findMinLM st b).1) s) none x = dfdv st x) := by
  intro l
  induction l with
  | nil =>
    intro s hs _ _ _
    exact ⟨hs, fun _ _ => rfl, fun x _ hx => absurd hx (List.not_mem_nil)⟩
  | cons b l ih =>
    intro s hs hnodup huse herr
    rw [List.foldl_cons] at herr ⊢
    rw [List.nodup_cons] at hnodup
    obtain ⟨v, hv, hvb⟩ := huse b (List.mem_cons_self ..)
    subst hvb
    have herr1 : (findMinLM s (getV st v).block).1.err = false := err_false_of_imp
      (fun h => foldl_inv (fun s : St => s.err = true) _ l _ h fun s b _ hs => (findMinLM_coreEq s b).errmono hs) herr
    obtain ⟨b1, b2, b3⟩ := findMinLM_block h hw hs hv herr1
    obtain ⟨i1, i2, i3⟩ := ih _ b1 hnodup.2 (fun b' hb' => huse b' (List.mem_cons_of_mem _ hb')) herr
    refine ⟨i1, ?_, ?_⟩
    · intro c2 h
      rw [i2 c2 (fun hh => h ⟨hh.1, List.mem_cons_of_mem _ hh.2⟩)]
      exact b2 c2 (fun hh => h ⟨hh.1, by rw [hh.2]; exact List.mem_cons_self ..⟩)
    · intro x hx hxb
      by_cases hxl : (getV st x).block ∈ l
      · exact i3 x hx hxl
      · have hxb' : (getV st x).block = (getV st v).block := by
          rcases List.mem_cons.1 hxb with h | h
          · exact h
          · exact absurd h hxl
        rw [← b3 x hx hxb']
        apply netVx_congr
        intro c2 hc2 _ ha2 hi
        apply i2
        rintro ⟨_, hmem⟩
        apply hxl
        rcases hi with hi | hi
        · rw [← hi]; exact hmem
        · rw [← hi, ← same_block_of_active h.inv hc2 ha2]; exact hmem

end KKT
open KKT

/-- the optimisation problem of a solver state -/
def instOf (st : St) : QP.Inst :=
  { vars := (List.range st.vs.size).map (fun i => ⟨(getV st i).d, (getV st i).w, (getV st i).s⟩)
    cons := (List.range st.cs.size).map (fun c => ⟨(getC st c).l, (getC st c).r, (getC st c).g⟩) }

/-- the state in which `multipliers` reads the multipliers -/
def lmState (st : St) : St := st.list.foldl (fun st b => (findMinLM st b).1) st

theorem multipliers_eq (st : St) : multipliers st =
    (List.range (lmState st).cs.size).map
      (fun i => if (getC (lmState st) i).active then (getC (lmState st) i).lm else 0) := rfl

theorem lmState_spec (st : St) (h : Inv2 st) (hw : PosW st) (herr : (lmState st).err = false) :
    LmOnly st (lmState st) ∧ ∀ x, x < st.vs.size → netVx st (lmState st) none x = dfdv st x := by
  unfold lmState at herr ⊢
  rw [← Array.foldl_toList] at herr ⊢
  obtain ⟨h1, _, h3⟩ := multipliers_fold h hw st.list.toList st (LmOnly.refl st) h.list.nodup
    h.list.inuse herr
  exact ⟨h1, fun x hx => h3 x hx (h.list.covers x hx)⟩

theorem lmState_noerr (st : St) (hinv : Inv st) (hL : ListInv st) (herr : st.err = false) : (lmState st).err = false := by
  unfold lmState
  rw [← Array.foldl_toList]
  refine (FrameAux.foldl_inv (fun acc : St => CoreEq st acc ∧ Quiet st acc ∧ acc.err = false) _ _ _
    ⟨CoreEq.refl st, Quiet.refl st, herr⟩ ?_).2.2
  rintro acc b hb ⟨hce, hq, he⟩
  obtain ⟨v, hv, e⟩ := hL.inuse b hb
  have hne : (getB acc b).vars ≠ [] := by
    rw [hq.getB, ← e]; exact vars_ne_nil_of_inuse st hinv v hv
  exact ⟨hce.trans (findMinLM_coreEq acc b), hq.trans (findMinLM_quiet acc b),
    findMinLM_noerr acc (hinv.of_coreEq hce) he b hne⟩

theorem multipliers_lam (st : St) (h : LmOnly st (lmState st)) :
    multipliers st = (List.range st.cs.size).map (lam st (lmState st)) := by
  rw [multipliers_eq, h.core.csize]
  apply List.map_congr_left
  intro c _
  unfold lam
  rw [h.active]

theorem instOf_vars_length (st : St) : (instOf st).vars.length = st.vs.size := by simp [instOf]

theorem scaleOf_instOf (st : St) (i : Nat) (hi : i < st.vs.size) : QP.scaleOf (instOf st) i = (getV st i).s := by
  simp [QP.scaleOf, instOf, hi]

theorem net_instOf (st : St) (f : Nat → Rat) (i : Nat) (hi : i < st.vs.size) :
    QP.net (instOf st) ((List.range st.cs.size).map f) i = ((List.range st.cs.size).map fun c => f c * coef st i c).sum := by
  unfold QP.net
  rw [scaleOf_instOf st i hi]
  simp only [instOf]
  rw [List.zip_map', List.map_map]
  rfl

theorem pos_positions (st : St) (k : Nat) (hk : k < st.vs.size) : QP.pos (positions st) k = position st k := by
  simp [QP.pos, positions, hk]

theorem wellFormed_instOf (st : St) (hwf : WF st) (hw : PosW st) : QP.wellFormedB (instOf st) = true := by
  unfold QP.wellFormedB
  rw [Bool.and_eq_true, List.all_eq_true, List.all_eq_true]
  constructor
  · intro v hv
    simp only [instOf, List.mem_map, List.mem_range] at hv
    obtain ⟨i, hi, rfl⟩ := hv
    simpa using hw i hi
  · intro c hc
    simp only [instOf, List.mem_map, List.mem_range] at hc
    obtain ⟨i, hi, rfl⟩ := hc
    simpa [instOf] using hwf.lr i hi

/-- the slack of constraint `c` in the vocabulary of `QP` (`Vpsc.slack` without the `unsatisfiable` flag) -/
theorem slack_instOf (st : St) (hwf : WF st) {c : Nat} (hc : c < st.cs.size) :
    QP.slack (instOf st) (positions st) ⟨(getC st c).l, (getC st c).r, (getC st c).g⟩ =
      (getV st (getC st c).r).s * position st (getC st c).r - (getC st c).g -
        (getV st (getC st c).l).s * position st (getC st c).l := by
  obtain ⟨h1, h2⟩ := hwf.lr c hc
  unfold QP.slack
  rw [scaleOf_instOf st _ h1, scaleOf_instOf st _ h2, pos_positions st _ h1, pos_positions st _ h2]

/-- **Stationarity of the Lagrangian at the solver's positions**: every variable is balanced by the multipliers of the
active constraints, `2·w_i·(x_i − d_i) = Σ_c lam_c·(s_i·[r_c = i] − s_i·[l_c = i])`, i.e. the unconstrained minimiser of
`L(·, lam)` is the vector of positions -/
theorem multipliers_stationary (st : St) (h : Inv2 st) (hw : PosW st) (herr : (lmState st).err = false) :
    QP.dualPoint (instOf st) (multipliers st) = positions st := by
  obtain ⟨hL, hnet⟩ := lmState_spec st h hw herr
  apply List.ext_getElem
  · simp [QP.dualPoint, instOf, positions]
  · intro i h1 _
    have hi : i < st.vs.size := by simpa [QP.dualPoint, instOf] using h1
    have hn : QP.net (instOf st) (multipliers st) i = dfdv st i := by
      rw [multipliers_lam st hL, net_instOf st _ i hi, ← hnet i hi, netVx_none]
    simp only [QP.dualPoint, positions, List.getElem_map, List.getElem_zipIdx, List.getElem_range, Nat.zero_add, hn]
    simp only [instOf, List.getElem_map, List.getElem_range, dfdv, Gen.dfdvFactor]
    rw [mul_div_cancel_left₀ _ (mul_ne_zero two_ne_zero (hw i hi).ne'), add_sub_cancel]

/-- the constraints carrying a nonzero multiplier are tight at the solver's positions (complementary slackness) -/
theorem multipliers_slack_zero (st : St) (hinv : Inv st) (hL : LmOnly st (lmState st)) :
    (((instOf st).cons.zip (multipliers st)).map fun p => p.2 * QP.slack (instOf st) (positions st) p.1).sum = 0 := by
  rw [multipliers_lam st hL, show (instOf st).cons = (List.range st.cs.size).map _ from rfl, List.zip_map', List.map_map]
  refine List.sum_eq_zero fun t ht => ?_
  obtain ⟨c, hc, rfl⟩ := List.mem_map.1 ht
  rw [List.mem_range] at hc
  simp only [Function.comp]
  cases ha : (getC st c).active with
  | false => exact mul_eq_zero_of_left (lam_inactive ha) _
  | true =>
    refine mul_eq_zero_of_right _ ?_
    obtain ⟨h1, h2⟩ := hinv.wf.lr c hc
    rw [slack_instOf st hinv.wf hc, ← hinv.tight c hc ha, position, position, same_block_of_active hinv hc ha,
      mul_div_cancel₀ _ (hinv.wf.scale_ne _ h2), mul_div_cancel₀ _ (hinv.wf.scale_ne _ h1)]
    ring

/-- **KKT bound**: for EVERY `z` (feasible or not), `cost x ≤ cost z − Σ_c lam_c · slack_c(z)` -/
theorem vpsc_kkt_bound (st : St) (h : Inv2 st) (hw : PosW st) (herr : (lmState st).err = false)
    (z : List Rat) (hz : z.length = st.vs.size) :
    QP.cost (instOf st) (positions st) ≤ QP.cost (instOf st) z -
      (((instOf st).cons.zip (multipliers st)).map fun p => p.2 * QP.slack (instOf st) z p.1).sum := by
  have hdv : QP.dualValue (instOf st) (multipliers st) = QP.cost (instOf st) (positions st) := by
    unfold QP.dualValue
    simp only [multipliers_stationary st h hw herr]
    rw [multipliers_slack_zero st h.inv (lmState_spec st h hw herr).1, sub_zero]
  rw [← hdv]
  exact QP.dualValue_le _ _ (wellFormed_instOf st h.inv.wf hw) z (hz.trans (instOf_vars_length st).symm)

theorem vpsc_optimal_of_nonneg_multipliers (st : St) (h : Inv2 st) (hw : PosW st) (herr : (lmState st).err = false)
    (hpos : ∀ l ∈ multipliers st, 0 ≤ l)
    (z : List Rat) (hz : z.length = st.vs.size) (hfeas : ∀ c ∈ (instOf st).cons, 0 ≤ QP.slack (instOf st) z c) :
    QP.cost (instOf st) (positions st) ≤ QP.cost (instOf st) z := by
  have h1 := vpsc_kkt_bound st h hw herr z hz
  have h2 := QP.mult_slack_nonneg (instOf st) (multipliers st) z hpos hfeas
  linarith

/-- the solver's own exit condition (`Blocks.split` splits nothing: every multiplier is `≥ LAGRANGIAN_TOLERANCE`, a tiny
negative number): the solver's positions are optimal up to `−LAGRANGIAN_TOLERANCE` times the total slack `z` leaves on the
constraints whose multiplier is negative -/
theorem vpsc_near_optimal_of_tolerance (st : St) (h : Inv2 st) (hw : PosW st) (herr : (lmState st).err = false)
    (htol : ∀ l ∈ multipliers st, Gen.lagrangianTolerance ≤ l)
    (z : List Rat) (hz : z.length = st.vs.size) (hfeas : ∀ c ∈ (instOf st).cons, 0 ≤ QP.slack (instOf st) z c) :
    QP.cost (instOf st) (positions st) ≤ QP.cost (instOf st) z + (-Gen.lagrangianTolerance) *
      (((instOf st).cons.zip (multipliers st)).map fun p => if p.2 < 0 then QP.slack (instOf st) z p.1 else 0).sum := by
  have h1 := vpsc_kkt_bound st h hw herr z hz
  have h2 : - (((instOf st).cons.zip (multipliers st)).map fun p => p.2 * QP.slack (instOf st) z p.1).sum ≤
      (-Gen.lagrangianTolerance) *
        (((instOf st).cons.zip (multipliers st)).map fun p => if p.2 < 0 then QP.slack (instOf st) z p.1 else 0).sum := by
    rw [← sum_map_neg', ← List.sum_map_mul_left]
    apply List.sum_le_sum
    intro p hp
    obtain ⟨hp1, hp2⟩ := List.of_mem_zip hp
    have hs := hfeas p.1 hp1
    have ht := htol p.2 hp2
    split_ifs with hneg
    · rw [← neg_mul]
      exact mul_le_mul_of_nonneg_right (neg_le_neg ht) hs
    · rw [mul_zero]
      exact neg_nonpos.2 (mul_nonneg (not_lt.1 hneg) hs)
  linarith

/-! ## cost, feasibility and problem data of a state in the vocabulary of `QP` -/

theorem cost_eq_qp (st : St) (h : Inv2 st) : cost st = QP.cost (instOf st) (positions st) := by
  rw [cost_eq_range st h.inv h.nd h.list]
  unfold QP.cost instOf positions
  rw [List.zip_map', List.map_map]
  refine congrArg List.sum (List.map_congr_left fun i _ => ?_)
  simp only [Function.comp]
  ring

/-- a feasible state, read as a placement for `instOf st`: every constraint that is not flagged holds up to `−ZERO_UPPERBOUND` -/
theorem feasibleB_unflagged (st : St) (hwf : WF st) (hfe : Feasible st) :
    QP.feasibleB { instOf st with cons := ((instOf st).cons.zipIdx.filter (fun p => !(flagged st).contains p.2)).map (·.1) }
      (-Gen.zeroUpperBound) (positions st) = true := by
  unfold QP.feasibleB
  simp only [List.all_eq_true, decide_eq_true_eq, neg_neg, List.mem_map, List.mem_filter]
  rintro c ⟨⟨c', i⟩, ⟨hmem, hfl⟩, rfl⟩
  obtain ⟨hi', hc'⟩ := List.getElem?_eq_some_iff.1 (List.mem_zipIdx_iff_getElem?.mp hmem)
  have hi : i < st.cs.size := by simpa [instOf] using hi'
  simp only [instOf, List.getElem_map, List.getElem_range] at hc'
  subst hc'
  have hu : (getC st i).unsat = false := by
    simpa [flagged, hi] using hfl
  have hsl := hfe i hi hu
  rw [slack, hu, if_neg Bool.false_ne_true, ← slack_instOf st hwf hi] at hsl
  exact hsl

theorem Data.instOf {vars : List (Rat × Rat × Rat)} {cons : List (Nat × Nat × Rat)} {st : St} (h : Data vars cons st) :
    instOf st = { vars := vars.map fun p => { d := p.1, w := p.2.1, s := p.2.2 },
                  cons := cons.map fun c => { l := c.1, r := c.2.1, g := c.2.2 } } := by
  unfold Vpsc.instOf
  congr 1
  · apply List.ext_getElem
    · simp [h.vsize]
    · intro i h1 _
      obtain ⟨a1, a2, a3⟩ := h.vdat i (by simpa [h.vsize] using h1)
      simp [a1, a2, a3]
  · apply List.ext_getElem
    · simp [h.csize]
    · intro i h1 _
      obtain ⟨a1, a2, a3⟩ := h.cdat i (by simpa [h.csize] using h1)
      simp [a1, a2, a3]

theorem Data.posW {vars : List (Rat × Rat × Rat)} {cons : List (Nat × Nat × Rat)} {st : St} (h : Data vars cons st)
    (hw : ∀ v ∈ vars, 0 < v.2.1) : PosW st := by
  intro v hv
  rw [h.vsize] at hv
  rw [(h.vdat v hv).2.1]
  exact hw _ (List.getElem_mem hv)

/-- sanity check of the statements on a solved instance (4 variables with scales 1, 2, 1, 3; 4 constraints, one redundant, one
slack): no traversal runs out of fuel, the recomputed multipliers are `[28/9, 8/3, 0, 0]` and the stationary point of the
Lagrangian is the vector of positions -/
example :
    let st := (solve 10 10 (init [(0, 1, 1), (0, 2, 2), (1, 3, 1), (5, 1, 3)] [(0, 1, 2), (1, 2, 1), (0, 2, 1), (2, 3, 1)])).1
    (st.list.foldl (fun st b => (findMinLM st b).1) st).err = false ∧ multipliers st = [28 / 9, 8 / 3, 0, 0] ∧
    positions st = [-14 / 9, 2 / 9, 13 / 9, 5] ∧ QP.dualPoint (instOf st) (multipliers st) = positions st := by
  decide +kernel

/-- the test vector behind the re-solve examples of `Props/C05.lean`: three variables in one block, solved again after one and after two
target updates, with the multipliers recomputed in either final state -/
theorem resolve_run :
    let i := init [(0, 1, 1), (0, 1, 1), (0, 1, 1)] [(0, 1, 2), (1, 2, 2)]
    let r1 := resolve 10 20 i [[10, 0, -10]]
    let r2 := resolve 10 20 i [[10, 0, -10], [0, 5, 20]]
    (r1.1.err = false ∧ positions r1.1 = [-2, 0, 2] ∧ r1.2 = 288 ∧
      r2.1.err = false ∧ positions r2.1 = [0, 5, 20] ∧ r2.2 = 0 ∧ flagged r2.1 = []) ∧
    (lmState r1.1).err = false ∧ multipliers r1.1 = [24, 24] ∧ (lmState r2.1).err = false ∧ multipliers r2.1 = [0, 0] := by
  decide +kernel

/-- the cyclic test vector `x₁ ≥ x₀ + 1`, `x₀ ≥ x₁ + 1` of `Props/C05.lean` -/
theorem cyclic_run :
    let r := solve 10 10 (init [(0, 1, 1), (0, 1, 1)] [(0, 1, 1), (1, 0, 1)])
    r.1.err = false ∧ positions r.1 = [-1 / 2, 1 / 2] ∧ flagged r.1 = [1] := by
  decide +kernel

end Labella.Vpsc
