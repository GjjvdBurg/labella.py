import Labella.Model.Text
/-! Helper lemmas for `Props/C19` (model of `uni2tex`). -/
namespace Labella.Text

def cmdChars (m : Nat) : List Nat := ((accentCmd m).getD "?").toList.map Char.toNat

theorem render_accent (m : Nat) (t : Tok) :
    render (.accent m t) = 92 :: (cmdChars m ++ 123 :: render t ++ [125]) := by
  rw [render, cmdChars]
  rfl

theorem isAccent_exists {m : Nat} (h : isAccent m = true) : ∃ p ∈ Gen.texAccents, p.1 = m := by
  unfold isAccent accentCmd at h
  rw [Option.isSome_map, List.find?_isSome] at h
  obtain ⟨p, hp, hpm⟩ := h
  exact ⟨p, hp, by simpa using hpm⟩

/-- 768 is U+0300, the first combining mark and the smallest key of `Gen.texAccents`: every
plain ASCII character lies below it -/
theorem table_keys_ge : ∀ p ∈ Gen.texAccents, 768 ≤ p.1 := by decide

theorem isAccent_ge {m : Nat} (h : isAccent m = true) : 768 ≤ m := by
  obtain ⟨p, hp, rfl⟩ := isAccent_exists h
  exact table_keys_ge p hp

theorem isAccent_lt_false {c : Nat} (h : c < 768) : isAccent c = false := by
  cases hc : isAccent c with
  | false => rfl
  | true => have := isAccent_ge hc; omega

theorem table_cmd_roundtrip :
    ∀ p ∈ Gen.texAccents, (cmdChars p.1).length = 1 ∧ markOfCmd ((cmdChars p.1).headD 0) = some p.1 := by
  decide +kernel

theorem cmdChars_of_isAccent {m : Nat} (h : isAccent m = true) :
    ∃ a, cmdChars m = [a] ∧ markOfCmd a = some m := by
  obtain ⟨p, hp, rfl⟩ := isAccent_exists h
  obtain ⟨h1, h2⟩ := table_cmd_roundtrip p hp
  match hc : cmdChars p.1, h1, h2 with
  | [a], _, h2 => exact ⟨a, rfl, by simpa [hc] using h2⟩

def WF : Tok → Prop
  | .plain _ => True
  | .accent m t => isAccent m = true ∧ WF t

/-- the three things one step of the loop can do: put the mark `c` on the last piece, write a decomposable character as an
accent over its base, or copy `c`; with what `oneStep` says in each case -/
theorem step_cases (db : UDB) (out : List Tok) (c : Nat) :
    (∃ last rest, out = last :: rest ∧ isAccent c = true ∧ step db out c = .accent c last :: rest ∧ oneStep db c = [c]) ∨
    (∃ base acc, isAccent acc = true ∧ step db out c = .accent acc (.plain base) :: out ∧ oneStep db c = [base, acc]) ∨
    (step db out c = .plain c :: out ∧ oneStep db c = [c]) := by
  unfold step oneStep
  by_cases hm : (db.isMark c && isAccent c) = true
  · rw [if_pos hm, if_pos hm]
    cases out with
    | nil => exact Or.inr (Or.inr ⟨rfl, rfl⟩)
    | cons last rest => exact Or.inl ⟨last, rest, rfl, (Bool.and_eq_true_iff.1 hm).2, rfl, rfl⟩
  · rw [if_neg hm, if_neg hm]
    cases db.decomp c with
    | none => exact Or.inr (Or.inr ⟨rfl, rfl⟩)
    | some p =>
      by_cases ha : isAccent p.2 = true
      · exact Or.inr (Or.inl ⟨p.1, p.2, ha, if_pos ha, if_pos ha⟩)
      · exact Or.inr (Or.inr ⟨if_neg ha, if_neg ha⟩)

theorem step_wf (db : UDB) (out : List Tok) (c : Nat) (h : ∀ t ∈ out, WF t) :
    ∀ t ∈ step db out c, WF t := by
  rcases step_cases db out c with ⟨last, rest, rfl, hacc, e, _⟩ | ⟨base, acc, hacc, e, _⟩ | ⟨e, _⟩ <;> rw [e]
  · obtain ⟨hl, hr⟩ := List.forall_mem_cons.1 h
    exact List.forall_mem_cons.2 ⟨⟨hacc, hl⟩, hr⟩
  · exact List.forall_mem_cons.2 ⟨⟨hacc, trivial⟩, h⟩
  · exact List.forall_mem_cons.2 ⟨trivial, h⟩

theorem foldl_step_wf (db : UDB) (s : List Nat) (out : List Tok) (h : ∀ t ∈ out, WF t) :
    ∀ t ∈ s.foldl (step db) out, WF t := by
  induction s generalizing out with
  | nil => simpa using h
  | cons c s ih => exact ih _ (step_wf db out c h)

theorem uni2texToks_wf (db : UDB) (s : List Nat) : ∀ t ∈ uni2texToks db s, WF t := by
  intro t ht
  unfold uni2texToks at ht
  rw [List.mem_reverse] at ht
  exact foldl_step_wf db s [] (by simp) t ht

theorem step_readBack (db : UDB) (out : List Tok) (c : Nat) :
    (step db out c).reverse.flatMap readBack = out.reverse.flatMap readBack ++ oneStep db c := by
  rcases step_cases db out c with ⟨last, rest, rfl, _, e, e'⟩ | ⟨base, acc, _, e, e'⟩ | ⟨e, e'⟩
  all_goals
    rw [e, e']
    simp [readBack]

theorem foldl_step_readBack (db : UDB) (s : List Nat) (out : List Tok) :
    (s.foldl (step db) out).reverse.flatMap readBack
      = out.reverse.flatMap readBack ++ s.flatMap (oneStep db) := by
  induction s generalizing out with
  | nil => simp
  | cons c s ih => rw [List.foldl_cons, ih, step_readBack]; simp

theorem foldl_step_untouched (db : UDB) (s : List Nat) (out : List Tok)
    (h : ∀ c ∈ s, db.decomp c = none ∧ isAccent c = false) :
    s.foldl (step db) out = (s.map Tok.plain).reverse ++ out := by
  induction s generalizing out with
  | nil => simp
  | cons c s ih =>
    have hc := h c (by simp)
    have hs : step db out c = Tok.plain c :: out := by simp [step, hc.1, hc.2]
    rw [List.foldl_cons, hs, ih _ (fun c hc => h c (by simp [hc]))]
    simp

theorem flatMap_render_plain (s : List Nat) : (s.map Tok.plain).flatMap render = s := by
  induction s with
  | nil => rfl
  | cons c s ih => simp [render, ih]

theorem step_plain (db : UDB) (out : List Tok) (c x : Nat) (h : Tok.plain x ∈ step db out c) :
    x = c ∨ Tok.plain x ∈ out := by
  rcases step_cases db out c with ⟨last, rest, rfl, _, e, _⟩ | ⟨base, acc, _, e, _⟩ | ⟨e, _⟩
  all_goals
    rw [e] at h
    rcases List.mem_cons.1 h with h | h
  · cases h
  · exact Or.inr (List.mem_cons_of_mem _ h)
  · cases h
  · exact Or.inr h
  · exact Or.inl (Tok.plain.inj h)
  · exact Or.inr h

theorem foldl_step_plain (db : UDB) (s : List Nat) (out : List Tok) (x : Nat)
    (h : Tok.plain x ∈ s.foldl (step db) out) : x ∈ s ∨ Tok.plain x ∈ out := by
  induction s generalizing out with
  | nil => exact Or.inr (by simpa using h)
  | cons c s ih =>
    rcases ih _ h with h | h
    · exact Or.inl (by simp [h])
    · rcases step_plain db out c x h with h | h
      · exact Or.inl (by simp [h])
      · exact Or.inr h

/-- a piece is parseable when it is well formed and no character read back from it is a backslash or a
closing brace -/
def Parseable (t : Tok) : Prop := WF t ∧ ∀ c ∈ readBack t, c ≠ 92 ∧ c ≠ 125

theorem parseable_inner {m : Nat} {t : Tok} (h : Parseable (.accent m t)) :
    isAccent m = true ∧ Parseable t :=
  ⟨h.1.1, h.1.2, fun c hc => h.2 c (by simp [readBack, hc])⟩

theorem parsePieces_plain (fuel c : Nat) (rest : List Nat) (h1 : c ≠ 92) (h2 : c ≠ 125) :
    parsePieces (fuel + 1) (c :: rest)
      = ((c :: (parsePieces fuel rest).1), (parsePieces fuel rest).2) := by
  rw [parsePieces]
  · simp_all
  · simp_all

/-- the parser inverts `render` on a sequence of parseable pieces followed by the end of the input or by
a closing brace, given enough fuel.  The tail is there for the accent case: `\c{…}` is parsed by a recursive call that
must stop at the `}`, so the induction hypothesis is used twice with the same fuel, once on the argument `[t]` with the
tail `125 :: rest of the input`, once on the remaining pieces with the tail of the statement -/
theorem parsePieces_render (fuel : Nat) : ∀ (ts : List Tok) (tail : List Nat),
    (∀ t ∈ ts, Parseable t) → (tail = [] ∨ ∃ tl, tail = 125 :: tl) →
    (ts.flatMap render ++ tail).length + 1 ≤ fuel →
    parsePieces fuel (ts.flatMap render ++ tail) = (ts.flatMap readBack, tail) := by
  induction fuel with
  | zero => intro ts tail _ _ h; omega
  | succ fuel ih =>
    intro ts tail hts htail hfuel
    cases ts with
    | nil =>
      rcases htail with rfl | ⟨tl, rfl⟩
      · simp [parsePieces]
      · simp [parsePieces]
    | cons t ts =>
      have hts' : ∀ t ∈ ts, Parseable t := fun t ht => hts t (by simp [ht])
      have ht := hts t (by simp)
      cases t with
      | plain c =>
        have hc := ht.2 c (by simp [readBack])
        simp only [List.flatMap_cons, render, readBack, List.cons_append, List.nil_append] at hfuel ⊢
        rw [parsePieces_plain _ _ _ hc.1 hc.2, ih ts tail hts' htail
          (by simp only [List.length_append, List.length_cons] at hfuel ⊢; omega)]
      | accent m t =>
        obtain ⟨hm, ht1⟩ := parseable_inner ht
        obtain ⟨a, ha, hmark⟩ := cmdChars_of_isAccent hm
        simp only [List.flatMap_cons, render_accent, ha, readBack, List.cons_append, List.nil_append,
          List.append_assoc, List.length_cons, List.length_append] at hfuel ⊢
        have h1 := ih [t] (125 :: (ts.flatMap render ++ tail)) (by simpa using ht1) (Or.inr ⟨_, rfl⟩)
          (by simp only [List.flatMap_cons, List.flatMap_nil, List.append_nil, List.length_append,
                List.length_cons]; omega)
        have h2 := ih ts tail hts' htail (by simp only [List.length_append]; omega)
        simp only [List.flatMap_cons, List.flatMap_nil, List.append_nil] at h1
        rw [parsePieces]
        simp only [hmark, h1, h2, List.append_assoc, List.cons_append, List.nil_append]

end Labella.Text
