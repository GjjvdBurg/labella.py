import Labella.Model.Process
/-! Lemmas about the process model (C10): in the non-shared model cells are only appended. -/
namespace Labella.Process

/-- arguments of the latest construction of `i` in `past` -/
def latest (past : List POp) (i : Nat) : Option Args :=
  past.reverse.findSome? (fun p => match p with
    | .construct j a => if j == i then some a else none
    | .export _ => none)

/-- what an export of `i` shows in state `s` -/
def out (s : PState) (i : Nat) : Option Args :=
  match lookup s i with
  | none => none
  | some (sc, di) =>
    let d := s.scales.getD sc ("", "")
    some { d0 := d.1, d1 := d.2, dir := s.dicts.getD di "" }

theorem pstep_export (shared : Bool) (s : PState) (i : Nat) : pstep shared s (.export i) = (s, out s i) := by
  simp only [pstep, out]
  split <;> rename_i h <;> simp only [h]

def Bounded (s : PState) : Prop := ∀ t ∈ s.tls, t.2.1 < s.scales.length ∧ t.2.2 < s.dicts.length

structure Inv (s : PState) (past : List POp) : Prop where
  bound : Bounded s
  look : ∀ i, out s i = latest past i

theorem lookup_bound {s : PState} (hb : Bounded s) {i sc di : Nat} (h : lookup s i = some (sc, di)) :
    sc < s.scales.length ∧ di < s.dicts.length := by
  obtain ⟨t, hf, e⟩ := Option.map_eq_some_iff.1 h
  cases e
  exact hb t (List.mem_reverse.1 (List.mem_of_find?_eq_some hf))

def cstep (s : PState) (j : Nat) (a : Args) : PState :=
  { scales := s.scales ++ [(a.d0, a.d1)], dicts := s.dicts ++ [a.dir],
    tls := s.tls ++ [(j, s.scales.length, s.dicts.length)] }

theorem pstep_construct (s : PState) (j : Nat) (a : Args) : pstep false s (.construct j a) = (cstep s j a, none) := rfl

theorem lookup_cstep (s : PState) (j : Nat) (a : Args) (i : Nat) :
    lookup (cstep s j a) i = if j == i then some (s.scales.length, s.dicts.length) else lookup s i := by
  unfold lookup cstep
  rw [List.reverse_append, List.reverse_singleton, List.singleton_append, List.find?_cons]
  cases j == i <;> rfl

theorem latest_append_construct (past : List POp) (j : Nat) (a : Args) (i : Nat) :
    latest (past ++ [.construct j a]) i = if j == i then some a else latest past i := by
  unfold latest
  rw [List.reverse_append, List.reverse_singleton, List.singleton_append, List.findSome?_cons]
  cases h : j == i <;> simp only [h] <;> rfl

theorem latest_append_export (past : List POp) (j : Nat) (i : Nat) :
    latest (past ++ [.export j]) i = latest past i := by
  unfold latest
  rw [List.reverse_append, List.reverse_singleton, List.singleton_append, List.findSome?_cons]

theorem bounded_cstep {s : PState} (hb : Bounded s) (j : Nat) (a : Args) : Bounded (cstep s j a) := by
  intro t ht
  simp only [cstep, List.length_append, List.length_singleton]
  rcases List.mem_append.1 ht with ht | ht
  · have := hb t ht; omega
  · rw [List.mem_singleton.1 ht]; exact ⟨Nat.lt_succ_self _, Nat.lt_succ_self _⟩

/-- cells are only appended, so what an older timeline points at is still there -/
theorem out_cstep {s : PState} (hb : Bounded s) (j : Nat) (a : Args) (i : Nat) :
    out (cstep s j a) i = if j == i then some a else out s i := by
  unfold out
  rw [lookup_cstep]
  cases j == i
  · cases hl : lookup s i with
    | none => rfl
    | some p =>
      obtain ⟨h1, h2⟩ := lookup_bound hb hl
      simp only [cstep, Bool.false_eq_true, if_false, List.getD_eq_getElem?_getD, List.getElem?_append_left h1,
        List.getElem?_append_left h2]
  · simp [cstep]

theorem inv_init : Inv PState.init [] := by
  constructor
  · intro t ht; simp [PState.init] at ht
  · intro i; rfl

theorem inv_construct {s : PState} {past : List POp} (h : Inv s past) (j : Nat) (a : Args) :
    Inv (cstep s j a) (past ++ [.construct j a]) := by
  constructor
  · exact bounded_cstep h.bound j a
  · intro i
    rw [out_cstep h.bound, latest_append_construct, h.look]

theorem inv_export {s : PState} {past : List POp} (h : Inv s past) (j : Nat) :
    Inv s (past ++ [.export j]) := by
  constructor
  · exact h.bound
  · intro i
    rw [latest_append_export, h.look]

theorem outputs_eq_expected (ops : List POp) : ∀ (s : PState) (past : List POp), Inv s past →
    outputs false s ops = expected past ops := by
  induction ops with
  | nil => intro s past _; rfl
  | cons op rest ih =>
    intro s past h
    cases op with
    | construct j a =>
      simp only [outputs, expected, pstep_construct]
      exact ih _ _ (inv_construct h j a)
    | «export» j =>
      simp only [outputs, expected, pstep_export]
      rw [ih _ _ (inv_export h j), h.look]
      rfl

end Labella.Process
