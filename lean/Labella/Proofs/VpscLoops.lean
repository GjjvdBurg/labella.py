import Labella.Proofs.VpscList
import Mathlib.Algebra.Order.Field.Rat
import Mathlib.Tactic.Linarith
/-! # The loops of the transliterated VPSC solver: `satisfyLoop`, `splitLoop`, `blocksSplit`, `satisfy`, `solveLoop`, `solve`

Between two operations the solver state satisfies `Inv2 st ∧ Covered st none ∧ st.err = false` (`Settled`, together with the `Frame`
from an earlier state).

* Under the structural invariant the recursive tree traversals (`computeLm`, `findPath`, `isActiveDirectedPathBetween`,
  `populateSplitBlock`) never run out of their fuel `travFuel st = st.vs.size + 2`: the active graph is a forest, so a traversal
  that never walks straight back follows a simple path.  Hence `blockSplit` and `findMinLM` raise no `err`. -/
namespace Labella.Vpsc

/-! Of the three tolerances extracted from `vpsc.py` the proofs use nothing but the signs. -/

theorem zeroUpperBound_nonpos : Gen.zeroUpperBound ≤ 0 := by norm_num [Gen.zeroUpperBound]

theorem lagrangianTolerance_neg : Gen.lagrangianTolerance < 0 := by norm_num [Gen.lagrangianTolerance]

theorem ratAbs_self_sub (c : Rat) : ¬ ratAbs (c - c) > Gen.solveCostTolerance := by
  rw [sub_self]
  unfold ratAbs
  norm_num [Gen.solveCostTolerance]

/-! ## States with the same graph -/

/-- same graph: the variables, the blocks, the block list and everything of the constraints except `unsat` and `lm` coincide; the
entries of `inactive` are constraint indices -/
structure SameG (st st' : St) : Prop where
  vs_eq : st'.vs = st.vs
  bs_eq : st'.bs = st.bs
  list_eq : st'.list = st.list
  csize : st'.cs.size = st.cs.size
  cfix : ∀ i, (getC st' i).l = (getC st i).l ∧ (getC st' i).r = (getC st i).r ∧ (getC st' i).g = (getC st i).g ∧
    (getC st' i).active = (getC st i).active
  inact : ∀ c ∈ st'.inactive.toList, c < st.cs.size

theorem SameG.conn {st st' : St} (h : SameG st st') (x : Option Nat) : Conn st' x = Conn st x :=
  Conn.congr h.csize (fun i => (h.cfix i).1) (fun i => (h.cfix i).2.1) (fun i => (h.cfix i).2.2.2) x

theorem SameG.quiet {st st' : St} (h : SameG st st') : Quiet st st' := ⟨h.vs_eq, h.bs_eq, h.list_eq⟩

theorem SameG.frame {st st' : St} (h : SameG st st') (herr : st.err = true → st'.err = true) : Frame st st' where
  vsize := by rw [h.vs_eq]
  csize := h.csize
  bsize := by rw [h.bs_eq]
  vstat := fun i => by rw [h.quiet.getV]; exact ⟨rfl, rfl, rfl, rfl, rfl⟩
  cstat := fun i => ⟨(h.cfix i).1, (h.cfix i).2.1, (h.cfix i).2.2.1⟩
  errmono := herr

theorem Inv2.of_sameG {st st' : St} (h : SameG st st') (hi : Inv2 st) : Inv2 st' where
  inv := hi.inv.of_same (by rw [h.vs_eq]) h.csize (by rw [h.bs_eq]) (fun i => by rw [h.quiet.getV]; exact ⟨rfl, rfl, rfl, rfl, rfl⟩)
    h.cfix (fun b => by rw [h.quiet.getB]) h.inact
  nd := fun v hv => by
    rw [h.quiet.getV, h.quiet.getB]
    exact hi.nd v (by rw [h.vs_eq] at hv; exact hv)
  adj := fun v hv => by
    rw [h.quiet.getV]
    exact hi.adj v (by rw [h.vs_eq] at hv; exact hv)
  list := hi.list.of_quiet h.quiet
  stats := hi.stats.of_quiet h.quiet

theorem SameG.push (st : St) (hwf : WF st) (c : Nat) (hc : c < st.cs.size) :
    SameG st { st with inactive := st.inactive.push c } := by
  refine ⟨rfl, rfl, rfl, rfl, fun _ => ⟨rfl, rfl, rfl, rfl⟩, fun x hx => ?_⟩
  rw [Array.toList_push, List.mem_append, List.mem_singleton] at hx
  rcases hx with hx | hx
  · exact hwf.inactive_lt x hx
  · exact hx ▸ hc

theorem SameG.setUnsat (st : St) (hwf : WF st) (v : Nat) :
    SameG st (setC st v { getC st v with unsat := true }) := by
  refine ⟨rfl, rfl, rfl, by simp, fun i => ?_, hwf.inactive_lt⟩
  rw [getC_setC]
  split
  · next h => obtain ⟨rfl, _⟩ := h; exact ⟨rfl, rfl, rfl, rfl⟩
  · exact ⟨rfl, rfl, rfl, rfl⟩

/-! ## `mostViolated` -/

theorem mostViolated_err (st : St) : (mostViolated st).1.err = st.err := (mostViolated_spec st).err_eq

theorem mostViolated_getC (st : St) (c : Nat) : getC (mostViolated st).1 c = getC st c :=
  getC_congr (mostViolated_spec st).cs_eq c

theorem mostViolated_slack (st : St) (c : Nat) : slack (mostViolated st).1 c = slack st c := by
  have S := mostViolated_spec st
  unfold slack position getV getC getB
  rw [S.vs_eq, S.cs_eq, S.bs_eq]

theorem mostViolated_sameG (st : St) (hwf : WF st) : SameG st (mostViolated st).1 := by
  have S := mostViolated_spec st
  exact ⟨S.vs_eq, S.bs_eq, S.list_eq, by rw [S.cs_eq], fun i => by rw [mostViolated_getC]; exact ⟨rfl, rfl, rfl, rfl⟩,
    fun c hc => hwf.inactive_lt c (S.inactive_sub c hc)⟩

theorem mostViolated_frame (st : St) (hwf : WF st) : Frame st (mostViolated st).1 :=
  (mostViolated_sameG st hwf).frame (fun h => (mostViolated_err st).trans h)

/-- the state `satisfyLoop` hands to an iteration: `mostViolated` has taken the violated constraint `v` off the pending list -/
theorem mostViolated_pre (st0 : St) (h : Inv2 st0) (hcov : Covered st0 none) (v : Nat) (hmv : (mostViolated st0).2 = some v)
    (hc : (slack (mostViolated st0).1 v < Gen.zeroUpperBound && !(getC (mostViolated st0).1 v).active) = true) :
    Inv2 (mostViolated st0).1 ∧ Covered (mostViolated st0).1 (some v) ∧ v < (mostViolated st0).1.cs.size ∧
    (getC (mostViolated st0).1 v).active = false ∧ (getC (mostViolated st0).1 v).unsat = false := by
  have h7 := (mostViolated_spec st0).choice
  have hG := mostViolated_sameG st0 h.inv.wf
  rw [hmv] at h7
  have hc' : slack st0 v < Gen.zeroUpperBound ∧ (getC st0 v).active = false := by
    simpa [mostViolated_slack, mostViolated_getC] using hc
  obtain ⟨hv, hvu, _, hif⟩ := h7
  rw [if_pos hc'] at hif
  refine ⟨h.of_sameG hG, ?_, by rw [hG.csize]; exact h.inv.wf.inactive_lt v hv, by rw [mostViolated_getC]; exact hc'.2,
    by rw [mostViolated_getC]; exact hvu⟩
  intro ci hci hne
  rw [hG.csize] at hci
  rw [mostViolated_getC]
  rcases hcov ci hci (by simp) with h | h | h
  · exact Or.inl h
  · exact Or.inr (Or.inl h)
  · exact Or.inr (Or.inr (hif ci h (by simpa using hne)))

theorem exit_feasible (st : St) (hinv : Inv st) (hcov : Covered st none)
    (hstop : ∀ v, (mostViolated st).2 = some v →
      ¬ (slack (mostViolated st).1 v < Gen.zeroUpperBound ∧ (getC (mostViolated st).1 v).active = false)) :
    Feasible st ∧ (mostViolated st).1 = st := by
  have h7 := (mostViolated_spec st).choice
  have key : (mostViolated st).1.inactive = st.inactive ∧
      ∀ c ∈ st.inactive.toList, (getC st c).unsat = false → Gen.zeroUpperBound ≤ slack st c := by
    cases hmv : (mostViolated st).2 with
    | none =>
      rw [hmv] at h7
      refine ⟨h7.1, fun c hc hu => zeroUpperBound_nonpos.trans (le_trans ?_ (h7.2 c hc hu))⟩
      norm_num [maxsize]
    | some v =>
      rw [hmv] at h7
      have hstop := hstop v hmv
      rw [mostViolated_slack, mostViolated_getC] at hstop
      obtain ⟨hv, hvu, hmin, hif⟩ := h7
      rw [if_neg hstop] at hif
      refine ⟨hif, fun c hc hu => ?_⟩
      by_cases hlt : slack st v < Gen.zeroUpperBound
      · have hact : (getC st v).active = true := by
          cases ha : (getC st v).active with
          | true => rfl
          | false => exact absurd ⟨hlt, ha⟩ hstop
        rw [slack_active st hinv v (hinv.wf.inactive_lt v hv) hact hvu] at hlt
        exact absurd hlt (not_lt.mpr zeroUpperBound_nonpos)
      · exact le_trans (not_lt.mp hlt) (hmin c hc hu)
  constructor
  · intro ci hci hu
    rcases hcov ci hci (by simp) with ha | hu' | hin
    · rw [slack_active st hinv ci hci ha hu]; exact zeroUpperBound_nonpos
    · rw [hu] at hu'; cases hu'
    · exact key.2 ci hin hu
  · rw [FrameAux.mostViolated_fst, key.1]

/-! ## The tree traversals have enough fuel

Ghost parameter: the list `v :: anc` of the variables on the path from the current variable `v` back to the root of the
traversal.  It is a simple path of the active graph; a simple path holds at most `vs.size` variables. -/

def PChain (s0 : St) : List Nat → Prop
  | [] => True
  | [_] => True
  | a :: b :: t => Adj s0 none a b ∧ PChain s0 (b :: t)

/-- a simple path of the active graph -/
structure SPath (s0 : St) (p : List Nat) : Prop where
  nodup : p.Nodup
  lt : ∀ a ∈ p, a < s0.vs.size
  chain : PChain s0 p

theorem SPath.length_le {s0 : St} {p : List Nat} (h : SPath s0 p) : p.length ≤ s0.vs.size := by
  have hs : p ⊆ List.range s0.vs.size := fun a ha => List.mem_range.2 (h.lt a ha)
  have := (List.subperm_of_subset h.nodup hs).length_le
  simpa using this

theorem SPath.single {s0 : St} {v : Nat} (hv : v < s0.vs.size) : SPath s0 [v] :=
  ⟨by simp, by simpa using hv, trivial⟩

/-- a chain that avoids `v` stays connected when a constraint with end `v` is removed -/
theorem PChain.conn_avoid {s0 : St} {c v w : Nat}
    (hlr : ((getC s0 c).l = v ∧ (getC s0 c).r = w) ∨ ((getC s0 c).l = w ∧ (getC s0 c).r = v)) :
    ∀ (p : List Nat) (u : Nat), PChain s0 (u :: p) → v ∉ u :: p → ∀ a ∈ u :: p, Conn s0 (some c) u a := by
  intro p
  induction p with
  | nil =>
    intro u _ _ a ha
    rw [List.mem_singleton] at ha
    subst ha
    exact Conn.reflS _ _ _
  | cons b t ih =>
    intro u hch hv a ha
    obtain ⟨hadj, hch'⟩ := hch
    have hvu : v ≠ u := fun e => hv (e ▸ List.mem_cons_self)
    have hvb : v ≠ b := fun e => hv (e ▸ List.mem_cons_of_mem _ List.mem_cons_self)
    have hv' : v ∉ b :: t := fun h => hv (List.mem_cons_of_mem _ h)
    have hadj' : Adj s0 (some c) u b := by
      obtain ⟨c1, h1, _, h3, h4⟩ := hadj
      refine ⟨c1, h1, ?_, h3, h4⟩
      intro e
      have e' : c1 = c := by simpa using e
      subst e'
      rcases hlr with ⟨a1, a2⟩ | ⟨a1, a2⟩ <;> rcases h4 with ⟨b1, b2⟩ | ⟨b1, b2⟩
      · exact hvu (a1.symm.trans b1)
      · exact hvb (a1.symm.trans b1)
      · exact hvb (a2.symm.trans b2)
      · exact hvu (a2.symm.trans b2)
    rcases List.mem_cons.1 ha with rfl | ha'
    · exact Conn.reflS _ _ _
    · exact hadj'.connS.trans (ih b hch' hv' a ha')

/-- in a forest, a step from the head `v` of a simple path across a constraint other than the one towards its predecessor
leads to a variable that is not on the path -/
theorem SPath.extend {s0 : St} (hwf : WFd s0) (hf : Forest s0) {v : Nat} {anc : List Nat} (hp : SPath s0 (v :: anc))
    {c w : Nat} (he : IsEdge s0 c v w) (hlink : ∀ u t, anc = u :: t → Adj s0 (some c) v u) :
    SPath s0 (w :: v :: anc) := by
  have hfresh : w ∉ v :: anc := by
    intro hmem
    rcases List.mem_cons.1 hmem with rfl | hmem'
    · exact he.bridge hf (Conn.reflS _ _ _)
    · cases anc with
      | nil => cases hmem'
      | cons u t =>
        have h1 := hlink u t rfl
        have hv : v ∉ u :: t := (List.nodup_cons.1 hp.nodup).1
        have h2 := PChain.conn_avoid he.2.2 t u hp.chain.2 hv w hmem'
        exact he.bridge hf (h1.connS.trans h2)
  refine ⟨List.nodup_cons.2 ⟨hfresh, hp.nodup⟩, ?_, ?_, hp.chain⟩
  · intro a ha
    rcases List.mem_cons.1 ha with rfl | ha'
    · exact (hwf.adj_lt (he.adj (x := none) (by simp))).2
    · exact hp.lt a ha'
  · exact (he.symm.adj (by simp))

/-- what the neighbour list of the head `v` of a simple path gives for an active constraint `c` to some `w` other than the
predecessor `u` of `v`: an edge, and the link from `v` to `u` is not `c` -/
theorem SPath.edge_of_neighbour {s0 : St} (hwf : WFd s0) {v c w : Nat} {anc : List Nat} (hp : SPath s0 (v :: anc))
    (hx : (c, w) ∈ neighbours s0 v) (hact : (getC s0 c).active = true) (hne : anc.head? ≠ some w) :
    IsEdge s0 c v w ∧ ∀ u t, anc = u :: t → Adj s0 (some c) v u := by
  obtain ⟨hc, _, hlr⟩ := hwf.nb_sound (hp.lt v List.mem_cons_self) hx
  refine ⟨⟨hc, hact, hlr⟩, ?_⟩
  intro u t e
  subst e
  have hwu : w ≠ u := fun e => hne (by simp [e])
  have hvu : v ≠ u := fun e => (List.nodup_cons.1 hp.nodup).1 (e ▸ List.mem_cons_self)
  obtain ⟨c1, h1, _, h3, h4⟩ := hp.chain.1
  refine ⟨c1, h1, ?_, h3, h4⟩
  intro e
  have e' : c1 = c := by simpa using e
  subst e'
  rcases hlr with ⟨a1, a2⟩ | ⟨a1, a2⟩ <;> rcases h4 with ⟨b1, b2⟩ | ⟨b1, b2⟩
  · exact hwu (a2.symm.trans b2)
  · exact hvu (a1.symm.trans b1)
  · exact hvu (a2.symm.trans b2)
  · exact hwu (a1.symm.trans b1)

/-- Why the fuel suffices.  Every traversal carries `vs.size ≤ fuel + anc.length`: true at the root (`anc = []`,
`fuel = travFuel st = vs.size + 2`), kept by a step (one unit of fuel per variable put on the path).  A simple
path `v :: anc` has at most `vs.size` variables, so the invariant rules out `fuel = 0`.  What a traversal has to show is `hstep`:
`P` for `fuel + 1` at the head of a path, given `P` for `fuel` at the far end of every edge that does not lead back. -/
theorem SPath.traverse {s0 : St} (hwf : WFd s0) (hf : Forest s0) {P : Nat → Nat → List Nat → Prop}
    (hstep : ∀ fuel v anc, SPath s0 (v :: anc) →
      (∀ c w, IsEdge s0 c v w → (∀ u t, anc = u :: t → Adj s0 (some c) v u) → P fuel w (v :: anc)) → P (fuel + 1) v anc) :
    ∀ fuel v anc, SPath s0 (v :: anc) → s0.vs.size ≤ fuel + anc.length → P fuel v anc := by
  intro fuel
  induction fuel with
  | zero =>
    intro v anc hp hfuel
    have := hp.length_le
    simp only [List.length_cons] at this
    omega
  | succ fuel ih =>
    intro v anc hp hfuel
    refine hstep fuel v anc hp fun c w he hlink => ih w (v :: anc) (hp.extend hwf hf he hlink) ?_
    rw [List.length_cons, Nat.add_comm anc.length 1, ← Nat.add_assoc]
    exact hfuel

theorem SPath.traverse_root {s0 : St} (hwf : WFd s0) (hf : Forest s0) {P : Nat → Nat → List Nat → Prop}
    (hstep : ∀ fuel v anc, SPath s0 (v :: anc) →
      (∀ c w, IsEdge s0 c v w → (∀ u t, anc = u :: t → Adj s0 (some c) v u) → P fuel w (v :: anc)) → P (fuel + 1) v anc)
    {v : Nat} (hv : v < s0.vs.size) : P (travFuel s0) v [] :=
  SPath.traverse hwf hf hstep _ v [] (SPath.single hv) (Nat.le_add_right _ 2)

/-- `computeLm` does not run out of fuel: `st` is the state the traversal started in, `s` the current one (multipliers
have been written), `v :: anc` the path back to the root -/
theorem computeLm_noerr (st : St) (hinv : Inv st) (herr : st.err = false) (track : Bool) (m : Option Nat) (v : Nat) :
    (computeLm (travFuel st) st track m v none).1.err = false := by
  by_cases hv : st.vs.size ≤ v
  · have hnb : neighbours st v = [] := by
      unfold neighbours
      rw [getV_geS st v hv]
      rfl
    rw [show travFuel st = (st.vs.size + 1) + 1 from rfl, FrameAux.computeLm_succ, hnb]
    exact herr
  refine SPath.traverse_root hinv.wf.toWFd hinv.toForest (P := fun fuel v anc => ∀ (s : St) (m : Option Nat), CoreEq st s →
    s.err = false → (computeLm fuel s track m v anc.head?).1.err = false) ?_ (Nat.lt_of_not_le hv) st m (CoreEq.refl st) herr
  intro fuel v anc hp ih s m hce herr
  rw [computeLm_succ_fst]
  have hnb : neighbours s v = neighbours st v := neighbours_of_coreEq hce v
  refine (FrameAux.foldl_inv (fun acc : St × Option Nat × Rat => CoreEq st acc.1 ∧ acc.1.err = false) _ _ _
    ⟨hce, herr⟩ ?_).2
  rintro acc ⟨c, w⟩ hx ⟨hce1, herr1⟩
  rw [hnb] at hx
  rcases FrameAux.lmStep_cases fuel track v anc.head? acc (c, w) with e | ⟨hact, hprev, ⟨x, e⟩, _⟩
  · rw [e]; exact ⟨hce1, herr1⟩
  · rw [(hce1.flags c).1] at hact
    obtain ⟨he, hlink⟩ := hp.edge_of_neighbour hinv.wf.toWFd hx hact hprev
    have hsub := ih c w he hlink acc.1 acc.2.1 hce1 herr1
    simp only [List.head?_cons] at hsub
    rw [e]
    exact ⟨(hce1.trans (computeLm_coreEq _ _ _ _ _ _)).trans (FrameAux.coreEq_setC _ _ _ rfl rfl rfl rfl rfl), hsub⟩

theorem onSub_ne_none (st : St) (c w : Nat) {sub : Option (Bool × Option Nat)} (h : sub ≠ none) :
    onSub st c w sub ≠ none := by
  unfold onSub
  match sub, h with
  | none, h => exact absurd rfl h
  | some (false, _), _ => simp
  | some (true, _), _ => simp

theorem fstep_ne_none (fuel : Nat) (st : St) (v : Nat) (prev : Option Nat) (tgt : Nat) (acc : Option (Bool × Option Nat))
    (p : Nat × Nat) (hacc : acc ≠ none)
    (hsub : ∀ m, (getC st p.1).active = true → prev ≠ some p.2 → findPath fuel st m p.2 (some v) tgt ≠ none) :
    fstep fuel st v prev tgt acc p ≠ none := by
  unfold fstep
  cases acc with
  | none => exact absurd rfl hacc
  | some a =>
    obtain ⟨found, ma⟩ := a
    dsimp only
    by_cases hc : ((getC st p.1).active && prev != some p.2) = true
    · rw [if_pos hc]
      rw [Bool.and_eq_true, bne_iff_ne] at hc
      cases found with
      | true => rw [if_pos rfl]; exact Option.some_ne_none _
      | false =>
        rw [if_neg Bool.false_ne_true]
        refine onSub_ne_none st p.1 p.2 ?_
        by_cases ht : (p.2 == tgt) = true
        · rw [if_pos ht]; exact Option.some_ne_none _
        · rw [if_neg ht]; exact hsub ma hc.1 hc.2
    · rw [if_neg hc]; exact Option.some_ne_none _

theorem findPath_noerr (st : St) (hinv : Inv st) (m : Option Nat) (l r : Nat) (hl : l < st.vs.size) :
    findPath (travFuel st) st m l none r ≠ none := by
  refine SPath.traverse_root hinv.wf.toWFd hinv.toForest
    (P := fun fuel v anc => ∀ m : Option Nat, findPath fuel st m v anc.head? r ≠ none) ?_ hl m
  intro fuel v anc hp ih m
  rw [findPath_succ]
  refine FrameAux.foldl_inv (fun acc : Option (Bool × Option Nat) => acc ≠ none) _ _ _ (by simp) ?_
  rintro acc ⟨c, w⟩ hx hacc
  refine fstep_ne_none fuel st v anc.head? r acc (c, w) hacc fun ma hact hprev => ?_
  obtain ⟨he, hlink⟩ := hp.edge_of_neighbour hinv.wf.toWFd hx hact hprev
  exact ih c w he hlink ma

/-- `isActiveDirectedPathBetween` does not run out of fuel; the path back to the root is directed -/
theorem isActiveDirectedPathBetween_noerr (st : St) (hinv : Inv st) (u v : Nat) (hu : u < st.vs.size) :
    isActiveDirectedPathBetween (travFuel st) st u v ≠ none := by
  refine SPath.traverse_root hinv.wf.toWFd hinv.toForest (P := fun fuel u anc =>
    (∀ p t, anc = p :: t → ∃ c', c' < st.cs.size ∧ (getC st c').active = true ∧ (getC st c').l = p ∧ (getC st c').r = u) →
    isActiveDirectedPathBetween fuel st u v ≠ none) ?_ hu (by simp)
  intro fuel u anc hp ih hdir
  rw [isActiveDirectedPathBetween]
  have hu : u < st.vs.size := hp.lt u List.mem_cons_self
  by_cases huv : (u == v) = true
  · rw [if_pos huv]; exact Option.some_ne_none _
  · rw [if_neg huv]
    refine FrameAux.foldl_inv (fun acc : Option Bool => acc ≠ none) _ _ _ (Option.some_ne_none _) ?_
    intro acc c hx hacc
    rw [List.mem_reverse] at hx
    match acc, hacc with
    | none, hacc => exact absurd rfl hacc
    | some true, _ => exact Option.some_ne_none _
    | some false, _ =>
      simp only
      by_cases hact : (getC st c).active = true
      · rw [if_pos hact]
        obtain ⟨hc, hl⟩ := hinv.wf.toWFd.out_sound u hu c hx
        have hlink : ∀ p t, anc = p :: t → Adj st (some c) u p := by
          intro p t e
          obtain ⟨c', h1, h2, h3, h4⟩ := hdir p t e
          have hpu : u ≠ p := by
            intro e'
            subst e
            exact (List.nodup_cons.1 hp.nodup).1 (e' ▸ List.mem_cons_self)
          refine ⟨c', h1, ?_, h2, Or.inr ⟨h3, h4⟩⟩
          intro e'
          have e'' : c' = c := by simpa using e'
          subst e''
          exact hpu (hl.symm.trans h3)
        refine ih c (getC st c).r ⟨hc, hact, Or.inl ⟨hl, rfl⟩⟩ hlink ?_
        intro p t e
        simp only [List.cons.injEq] at e
        obtain ⟨rfl, _⟩ := e
        exact ⟨c, hc, hact, hl, rfl⟩
      · rw [if_neg hact]; exact Option.some_ne_none _

/-! ## `populateSplitBlock`, `blockSplit`, `findMinLM` raise no `err` -/

theorem createSplitBlock_noerr (s : St) (start : Nat) (hwf : WFd s) (hf : Forest s) (hstart : start < s.vs.size)
    (herr : s.err = false) : (createSplitBlock s start).1.err = false ∧ GEq s (createSplitBlock s start).1 := by
  rw [createSplitBlock_fst]
  have hg := newBlock_geq s start
  refine ⟨?_, hg.trans (populate_geq _ _ _ _ _)⟩
  refine SPath.traverse_root hwf hf (P := fun fuel v anc => ∀ s' : St, GEq s s' → s'.err = false →
    (populateSplitBlock fuel s' s.bs.size v anc.head?).err = false) ?_ hstart _ hg herr
  intro fuel v anc hp ih s' hg herr
  rw [populate_succ, hg.neighbours]
  refine (FrameAux.foldl_inv (fun acc : St => GEq s acc ∧ acc.err = false) _ _ _ ⟨hg, herr⟩ ?_).2
  rintro acc ⟨c, w⟩ hx ⟨hg1, herr1⟩
  unfold pstep
  simp only
  split
  · next hcond =>
    rw [Bool.and_eq_true, bne_iff_ne, hg1.getC] at hcond
    obtain ⟨he, hlink⟩ := hp.edge_of_neighbour hwf hx hcond.1 hcond.2
    have hg2 : GEq s (visit acc s.bs.size v c w) := hg1.trans (visit_geq _ _ _ _ _)
    exact ⟨hg2.trans (populate_geq _ _ _ _ _), ih c w he hlink (visit acc s.bs.size v c w) hg2 ((visit_err ..).trans herr1)⟩
  · exact ⟨hg1, herr1⟩

theorem blockSplit_noerr (st : St) (ci : Nat) (hinv : Inv st) (hci : ci < st.cs.size) (herr : st.err = false) :
    (blockSplit st ci).1.err = false := by
  rw [blockSplit_fst]
  obtain ⟨hwf0, hf0⟩ := deactivate_graph st ci hci hinv.wf.toWFd hinv.toForest
  obtain ⟨hl, hr⟩ := hinv.wf.lr ci hci
  rw [((deactivate_cfix st ci hci).2.1 ci).1, ((deactivate_cfix st ci hci).2.1 ci).2.1]
  have hvs0 : (setC st ci { getC st ci with active := false }).vs.size = st.vs.size := rfl
  have herr0 : (setC st ci { getC st ci with active := false }).err = false := herr
  generalize setC st ci { getC st ci with active := false } = s0 at hwf0 hf0 hvs0 herr0 ⊢
  obtain ⟨e1, g1⟩ := createSplitBlock_noerr s0 (getC st ci).l hwf0 hf0 (hvs0 ▸ hl) herr0
  exact (createSplitBlock_noerr _ (getC st ci).r (g1.wfd hwf0) (g1.forest hf0) (by rw [g1.vsize, hvs0]; exact hr) e1).1

theorem findMinLM_noerr (st : St) (hinv : Inv st) (herr : st.err = false) (b : Nat) (hne : (getB st b).vars ≠ []) :
    (findMinLM st b).1.err = false := by
  cases hv : (getB st b).vars with
  | nil => exact absurd hv hne
  | cons v0 t => rw [(findMinLM_cons st b v0 t hv).1]; exact computeLm_noerr st hinv herr true none v0

theorem vars_ne_nil_of_inuse (st : St) (hinv : Inv st) (v : Nat) (hv : v < st.vs.size) :
    (getB st (getV st v).block).vars ≠ [] := by
  have := (hinv.members v hv v).2 ⟨hv, rfl⟩
  exact List.ne_nil_of_mem this

theorem findMinLM_noerr_inuse (st : St) (hinv : Inv st) (herr : st.err = false) (v : Nat) (hv : v < st.vs.size) :
    (findMinLM st (getV st v).block).1.err = false :=
  findMinLM_noerr st hinv herr _ (vars_ne_nil_of_inuse st hinv v hv)


/-! ## The operations that take no fuel keep `err` as it is -/

private theorem addVariable_err (st : St) (b i : Nat) : (addVariable st b i).err = st.err := rfl

private theorem newBlock_err (st : St) (i : Nat) : (newBlock st i).1.err = st.err := newBlock_fst_err st i

theorem removeSet_err (st : St) (b : Nat) : (removeSet st b).err = st.err := by
  rw [removeSet_eq]
  split <;> rfl

theorem removeBlock_err (st : St) (b : Nat) : (removeBlock st b).err = st.err := removeSet_err st b

theorem insertBlock_err (st : St) (b : Nat) : (insertBlock st b).err = st.err := rfl

theorem updateWeightedPosition_err (st : St) (b : Nat) : (updateWeightedPosition st b).err = st.err := rfl

theorem mergeAcross_err (st : St) (self b ci : Nat) (dist : Rat) : (mergeAcross st self b ci dist).err = st.err := by
  rw [mergeAcross_eq]
  exact (foldl_mstep_fields self dist _ _).2.2.2.1

theorem mergeBlocks_err (st : St) (ci : Nat) : (mergeBlocks st ci).err = st.err := by
  unfold mergeBlocks
  dsimp only
  split <;> rw [removeBlock_err, mergeAcross_err]

/-- `s` is a later state than `st` in which no traversal has run out of fuel and the invariants kept between two operations hold -/
structure Settled (st s : St) : Prop where
  noerr : s.err = false
  inv2 : Inv2 s
  cov : Covered s none
  frame : Frame st s

theorem Settled.of_frame {st s r : St} (F : Frame st s) (h : Settled s r) : Settled st r :=
  ⟨h.noerr, h.inv2, h.cov, F.trans h.frame⟩

/-! ## One split: `blockSplit`, `Blocks.insert` of the two new blocks, `Blocks.remove` of the block that was split -/

/-- what the loop of `Blocks.split` does with a block whose smallest multiplier (constraint `ci`) is below the tolerance -/
def splitOne (st : St) (ci : Nat) : St :=
  let b' := (getV st (getC st ci).l).block
  let sp := blockSplit st ci
  let st := insertBlock (insertBlock sp.1 sp.2.1) sp.2.2
  let stSet := removeSet st b'
  let st := { stSet with list := stSet.list.pop }
  { st with inactive := st.inactive.push ci }

theorem splitOne_eq (st : St) (ci : Nat) : splitOne st ci =
    { removeBlock (insertBlock (insertBlock (blockSplit st ci).1 (blockSplit st ci).2.1) (blockSplit st ci).2.2)
        (getV st (getC st ci).l).block with
      inactive := (removeBlock (insertBlock (insertBlock (blockSplit st ci).1 (blockSplit st ci).2.1)
        (blockSplit st ci).2.2) (getV st (getC st ci).l).block).inactive.push ci } := rfl

theorem splitOne_err (st : St) (ci : Nat) : (splitOne st ci).err = (blockSplit st ci).1.err := by
  unfold splitOne
  dsimp only
  rw [removeSet_err, insertBlock_err, insertBlock_err]

theorem splitOne_spec (st : St) (ci : Nat) (h : Inv2 st) (hci : ci < st.cs.size) (ha : (getC st ci).active = true)
    (herr : st.err = false) :
    (splitOne st ci).err = false ∧ Inv2 (splitOne st ci) ∧ (∀ x, Covered st x → Covered (splitOne st ci) x) ∧
    Frame st (splitOne st ci) ∧ (∀ c, c ≠ ci → (getC (splitOne st ci) c).active = (getC st c).active) ∧
    (∀ u v, Conn (splitOne st ci) none u v ↔ Conn st (some ci) u v) := by
  have herr1 := blockSplit_noerr st ci h.inv hci herr
  have S := blockSplit_inv st ci h.inv hci ha herr1
  have snd := blockSplit_varsNodup st ci h.inv h.nd h.adj hci ha herr1
  have hL := split_listInv st ci h.inv hci ha herr1 h.list
  have hS := split_statsInv st ci h.inv h.adj hci ha herr1 h.stats (getV st (getC st ci).l).block
  have hce : CoreEq (blockSplit st ci).1 (removeBlock (insertBlock (insertBlock (blockSplit st ci).1 (blockSplit st ci).2.1)
      (blockSplit st ci).2.2) (getV st (getC st ci).l).block) :=
    ((insertBlock_coreEq _ _).trans (insertBlock_coreEq _ _)).trans (removeBlock_coreEq _ _)
  have he := splitOne_err st ci
  rw [splitOne_eq] at he ⊢
  generalize removeBlock (insertBlock (insertBlock (blockSplit st ci).1 (blockSplit st ci).2.1) (blockSplit st ci).2.2)
    (getV st (getC st ci).l).block = sb at hce hL hS he ⊢
  generalize (blockSplit st ci).1 = sp at *
  have ib : Inv sb := S.inv.of_coreEq hce
  have fb : Frame st sb := S.frame.trans hce.toFrame
  have g2 := SameG.push sb ib.wf ci (by rw [fb.csize]; exact hci)
  have hact : ∀ c, c ≠ ci → (getC sb c).active = (getC st c).active := fun c hc => ((hce.flags c).1).trans (S.active_ne c hc)
  refine ⟨he.trans herr1, Inv2.of_sameG g2 ⟨ib, snd.of_coreEq hce, h.adj.of_frame fb, hL, hS⟩, ?_, fb.trans (g2.frame id), hact,
    fun u v => ?_⟩
  · intro x hcov c hc hne
    have hc' : c < st.cs.size := by rw [← fb.csize]; exact hc
    by_cases hcc : c = ci
    · subst hcc; right; right; simp
    · rcases hcov c hc' hne with h | h | h
      · left; exact (hact c hcc).trans h
      · right; left; exact ((hce.flags c).2.trans (S.unsat_eq c)).trans h
      · right; right
        have : c ∈ sb.inactive.toList := by rw [hce.inactive_eq, S.inactive_eq]; exact h
        simp [this]
  · rw [g2.conn, hce.conn]; exact S.conn u v

/-! ## One iteration of the `satisfy` loop -/

theorem merge_step (st : St) (v : Nat) (h : Inv2 st) (hcov : Covered st (some v)) (hv : v < st.cs.size)
    (ha : (getC st v).active = false) (hb : (getV st (getC st v).l).block ≠ (getV st (getC st v).r).block)
    (herr : st.err = false) : Settled st (mergeBlocks st v) := by
  have M := mergeBlocks_inv st v h.inv h.nd hv ha hb
  obtain ⟨hl, hs⟩ := mergeBlocks_list_stats st v h.inv h.nd hv ha hb h.list h.stats
  refine ⟨(mergeBlocks_err st v).trans herr,
    ⟨M.inv, mergeBlocks_varsNodup st v h.inv h.nd hv ha hb, h.adj.of_frame M.frame, hl, hs⟩, ?_, M.frame⟩
  intro ci hci _
  rw [M.frame.csize] at hci
  by_cases hcv : ci = v
  · subst hcv; exact Or.inl M.active_ci
  · rcases hcov ci hci (by simpa using hcv) with h | h | h
    · left; rw [M.active_ne ci hcv]; exact h
    · right; left; rw [M.unsat_eq]; exact h
    · right; right; rw [M.inactive_eq]; exact h

theorem unsat_step (st : St) (v : Nat) (h : Inv2 st) (hcov : Covered st (some v)) (hv : v < st.cs.size)
    (herr : st.err = false) : Settled st (setC st v { getC st v with unsat := true }) := by
  have hs := SameG.setUnsat st h.inv.wf v
  refine ⟨herr, h.of_sameG hs, ?_, hs.frame (fun h => h)⟩
  intro ci hci _
  rw [hs.csize] at hci
  rw [getC_setC]
  by_cases hcv : ci = v
  · subst hcv; simp [hv]
  · rw [if_neg (fun h => hcv h.1)]
    exact hcov ci hci (by simpa using hcv)

/-- after a split that separated the two ends of `v`: `v` is satisfied now and goes back on the pending list, or the two halves that
hold its ends are merged across it -/
theorem splitTail_spec (st2 : St) (v : Nat) (h : Inv2 st2) (hcov : Covered st2 (some v)) (hv : v < st2.cs.size)
    (ha : (getC st2 v).active = false) (hb : (getV st2 (getC st2 v).l).block ≠ (getV st2 (getC st2 v).r).block)
    (herr : st2.err = false) :
    Settled st2 (if slack st2 v ≥ 0 then { st2 with inactive := st2.inactive.push v } else mergeBlocks st2 v) := by
  split
  · have hs := SameG.push st2 h.inv.wf v hv
    refine ⟨herr, h.of_sameG hs, ?_, hs.frame (fun h => h)⟩
    intro ci hci _
    by_cases hcv : ci = v
    · subst hcv; right; right; simp
    · rcases hcov ci hci (by simpa using hcv) with h | h | h
      · exact Or.inl h
      · exact Or.inr (Or.inl h)
      · right; right; simp [h]
  · exact merge_step st2 v h hcov hv ha hb herr

/-- the part of an iteration that follows `findMinLMBetween` when it has found the constraint `sc` to split at -/
def splitBranch (st1 : St) (v sc lb : Nat) : St :=
  let sp := blockSplit st1 sc
  let st2 := insertBlock (insertBlock sp.1 sp.2.1) sp.2.2
  let st2 := removeBlock st2 lb
  let st2 := { st2 with inactive := st2.inactive.push sc }
  if slack st2 v ≥ 0 then { st2 with inactive := st2.inactive.push v } else mergeBlocks st2 v

theorem splitBranch_eq (st1 : St) (v sc : Nat) : splitBranch st1 v sc (getV st1 (getC st1 sc).l).block =
    if slack (splitOne st1 sc) v ≥ 0 then { splitOne st1 sc with inactive := (splitOne st1 sc).inactive.push v }
    else mergeBlocks (splitOne st1 sc) v := rfl

theorem splitBranch_err (st1 : St) (v sc lb : Nat) : (splitBranch st1 v sc lb).err = (blockSplit st1 sc).1.err := by
  have h : (removeBlock (insertBlock (insertBlock (blockSplit st1 sc).1 (blockSplit st1 sc).2.1) (blockSplit st1 sc).2.2)
      lb).err = (blockSplit st1 sc).1.err := by
    rw [removeBlock_err, insertBlock_err, insertBlock_err]
  unfold splitBranch
  dsimp only
  generalize removeBlock (insertBlock (insertBlock (blockSplit st1 sc).1 (blockSplit st1 sc).2.1) (blockSplit st1 sc).2.2)
    lb = sb at h ⊢
  split
  · exact h
  · rw [mergeBlocks_err]; exact h

/-- one iteration of the `while` loop of `Solver.satisfy`, up to (not including) the next `mostViolated()`; the flag is
`false` when a traversal ran out of fuel (the loop then returns the state, `err` raised) -/
def satStep (st : St) (v : Nat) : St × Bool :=
  let c := getC st v
  let lb := (getV st c.l).block
  let rb := (getV st c.r).block
  if lb != rb then (mergeBlocks st v, true)
  else
    match isActiveDirectedPathBetween (travFuel st) st c.r c.l with
    | none => ({ st with err := true }, false)
    | some true => (setC st v { c with unsat := true }, true)
    | some false =>
      let st1 := (computeLm (travFuel st) st false none c.l none).1
      match findPath (travFuel st) st1 none c.l none c.r with
      | none => ({ st1 with err := true }, false)
      | some (_, none) => (setC st1 v { getC st1 v with unsat := true }, true)
      | some (_, some sc) => (splitBranch st1 v sc lb, true)

/-- the ways an iteration can go, each with what the tests established: merge; in one block: the directed-path search out of
fuel, a cycle of active constraints (flag `v`), or, with the multipliers recomputed (`st1`): out of fuel, no splittable constraint on
the path (flag `v`), split at `sc` -/
theorem satStep_cases (st : St) (v : Nat) (P : St → Bool → Prop)
    (hmerge : (getV st (getC st v).l).block ≠ (getV st (getC st v).r).block → P (mergeBlocks st v) true)
    (hfuel : (getV st (getC st v).l).block = (getV st (getC st v).r).block →
      isActiveDirectedPathBetween (travFuel st) st (getC st v).r (getC st v).l = none → P { st with err := true } false)
    (hcycle : (getV st (getC st v).l).block = (getV st (getC st v).r).block →
      isActiveDirectedPathBetween (travFuel st) st (getC st v).r (getC st v).l = some true →
      P (setC st v { getC st v with unsat := true }) true)
    (hpath : (getV st (getC st v).l).block = (getV st (getC st v).r).block →
      isActiveDirectedPathBetween (travFuel st) st (getC st v).r (getC st v).l = some false →
      ∀ st1, st1 = (computeLm (travFuel st) st false none (getC st v).l none).1 →
      (findPath (travFuel st) st1 none (getC st v).l none (getC st v).r = none → P { st1 with err := true } false) ∧
      (∀ b, findPath (travFuel st) st1 none (getC st v).l none (getC st v).r = some (b, none) →
        P (setC st1 v { getC st1 v with unsat := true }) true) ∧
      ∀ b sc, findPath (travFuel st) st1 none (getC st v).l none (getC st v).r = some (b, some sc) →
        P (splitBranch st1 v sc (getV st (getC st v).l).block) true) :
    P (satStep st v).1 (satStep st v).2 := by
  unfold satStep
  dsimp only
  split
  · next hb => exact hmerge (by simpa using hb)
  · next hb =>
    have hb' : (getV st (getC st v).l).block = (getV st (getC st v).r).block := by simpa using hb
    split
    · next h => exact hfuel hb' h
    · next h => exact hcycle hb' h
    · next h =>
      obtain ⟨h1, h2, h3⟩ := hpath hb' h _ rfl
      split
      · next hfp => exact h1 hfp
      · next b hfp => exact h2 b hfp
      · next b sc hfp => exact h3 b sc hfp

theorem satisfyLoop_succ (fuel : Nat) (st : St) (v : Nat) :
    satisfyLoop (fuel + 1) st (some v) =
      if slack st v < Gen.zeroUpperBound && !(getC st v).active then
        if (satStep st v).2 then satisfyLoop fuel (mostViolated (satStep st v).1).1 (mostViolated (satStep st v).1).2
        else (satStep st v).1
      else st := by
  rw [satisfyLoop]
  by_cases hc : (slack st v < Gen.zeroUpperBound && !(getC st v).active) = true
  · rw [if_pos hc, if_pos hc]
    unfold satStep splitBranch
    dsimp only
    split
    · rfl
    · generalize isActiveDirectedPathBetween (travFuel st) st (getC st v).r (getC st v).l = o
      rcases o with _ | _ | _
      · rfl
      · generalize findPath (travFuel st) (computeLm (travFuel st) st false none (getC st v).l none).1 none
          (getC st v).l none (getC st v).r = o2
        rcases o2 with _ | ⟨b, _ | sc⟩ <;> rfl
      · rfl
  · rw [if_neg hc, if_neg hc]


theorem satStep_errmono (st : St) (v : Nat) (h : st.err = true) : (satStep st v).1.err = true := by
  refine satStep_cases st v (fun s _ => s.err = true) (fun _ => (mergeBlocks_err st v).trans h) (fun _ _ => rfl)
    (fun _ _ => h) ?_
  intro _ _ st1 hst1
  have h1 : st1.err = true := hst1 ▸ (computeLm_coreEq (travFuel st) st false none (getC st v).l none).errmono h
  exact ⟨fun _ => rfl, fun _ _ => h1, fun b sc _ => (splitBranch_err ..).trans (blockSplit_err_sticky _ _ h1)⟩

theorem satStep_spec (st : St) (v : Nat) (h : Inv2 st) (hcov : Covered st (some v)) (hv : v < st.cs.size)
    (ha : (getC st v).active = false) (herr : st.err = false) :
    (satStep st v).2 = true ∧ Inv2 (satStep st v).1 ∧ Covered (satStep st v).1 none ∧ (satStep st v).1.err = false ∧
      Frame st (satStep st v).1 := by
  obtain ⟨hl, hr⟩ := h.inv.wf.lr v hv
  suffices H : (satStep st v).2 = true ∧ Settled st (satStep st v).1 from ⟨H.1, H.2.inv2, H.2.cov, H.2.noerr, H.2.frame⟩
  refine satStep_cases st v (fun s b => b = true ∧ Settled st s) (fun hb => ⟨rfl, merge_step st v h hcov hv ha hb herr⟩)
    (fun _ e => absurd e (isActiveDirectedPathBetween_noerr st h.inv _ _ hr)) (fun _ _ => ⟨rfl, unsat_step st v h hcov hv herr⟩) ?_
  intro hbeq _ st1 hst1
  have hce : CoreEq st st1 := hst1 ▸ computeLm_coreEq (travFuel st) st false none (getC st v).l none
  have h1 : Inv2 st1 := h.of_quiet hce (hst1 ▸ computeLm_quiet false (travFuel st) st none (getC st v).l none)
  have e1 : st1.err = false := hst1 ▸ computeLm_noerr st h.inv herr false none (getC st v).l
  have c1 : Covered st1 (some v) := hcov.of_coreEq hce
  have hv1 : v < st1.cs.size := by rw [hce.csize]; exact hv
  have hl1 : (getC st v).l < st1.vs.size := by rw [hce.vsize]; exact hl
  have htf : travFuel st = travFuel st1 := by unfold travFuel; rw [hce.vsize]
  refine ⟨fun e => absurd e (htf ▸ findPath_noerr st1 h1.inv none _ _ hl1), fun _ _ => ?_, fun b sc hfp => ?_⟩
  · exact ⟨rfl, (unsat_step st1 v h1 c1 hv1 e1).of_frame hce.toFrame⟩
  · obtain ⟨p1, p2, p3⟩ := findPath_sep st1 h1.inv (getC st v).l (getC st v).r hl1 _ b sc hfp
    have hV := FrameAux.getV_of_coreEq hce
    -- the block that is split is the block of `v`'s ends: `sc` lies on the path between them
    have hlb : (getV st (getC st v).l).block = (getV st1 (getC st1 sc).l).block := by
      have hconn : Conn st1 none (getC st v).l (getC st v).r :=
        (h1.inv.comps _ _ hl1 (by rw [hce.vsize]; exact hr)).1 (by rw [hV, hV]; exact hbeq)
      rcases conn_cases hconn sc with hc | ⟨hc, _⟩
      · exact absurd hc p3
      · rw [← hV]
        exact (h1.inv.comps _ _ hl1 (h1.inv.wf.lr sc p1).1).2 hc
    have hvsc : v ≠ sc := by
      intro e; rw [e, ← (hce.flags sc).1, p2] at ha; cases ha
    rw [hlb, splitBranch_eq]
    obtain ⟨e2, t1, t2, t4, hact, hconn⟩ := splitOne_spec st1 sc h1 p1 p2 e1
    have T := splitTail_spec _ v t1 (t2 _ c1) (by rw [t4.csize]; exact hv1)
      ((hact v hvsc).trans ((hce.flags v).1.trans ha)) (by
        rw [(t4.cstat v).1, (t4.cstat v).2.1, (hce.cstat v).1, (hce.cstat v).2.1]
        exact fun e => p3 ((hconn _ _).1 ((t1.inv.comps _ _ (by rw [t4.vsize]; exact hl1)
          (by rw [t4.vsize, hce.vsize]; exact hr)).1 e))) e2
    exact ⟨rfl, (T.of_frame t4).of_frame hce.toFrame⟩

/-! ## The `satisfy` loop -/

theorem satisfyLoop_errmono : ∀ (fuel : Nat) (st : St) (mv : Option Nat), st.err = true →
    (satisfyLoop fuel st mv).err = true
  | 0, st, _, _ => by rw [satisfyLoop]
  | fuel + 1, st, none, h => by rw [satisfyLoop]; exact h
  | fuel + 1, st, some v, h => by
    rw [satisfyLoop_succ]
    split
    · split
      · apply satisfyLoop_errmono
        rw [mostViolated_err]
        exact satStep_errmono _ _ h
      · exact satStep_errmono _ _ h
    · exact h

/-- the test of the `while` loop of `Solver.satisfy` -/
def satCond (p : St × Option Nat) : Bool :=
  match p.2 with
  | none => false
  | some v => slack p.1 v < Gen.zeroUpperBound && !(getC p.1 v).active

/-- the body of the `while` loop of `Solver.satisfy`, followed by the next `mostViolated()` -/
def satNext (p : St × Option Nat) : St × Option Nat :=
  match p.2 with
  | none => p
  | some v => mostViolated (satStep p.1 v).1

theorem satisfyLoop_unroll (n : Nat) (st0 : St) (h : Inv2 st0) (hcov : Covered st0 none) (herr : st0.err = false) :
    (satCond (mostViolated st0) = false ∧ (mostViolated st0).1 = st0 ∧ Feasible st0 ∧
      satisfyLoop (n + 1) (mostViolated st0).1 (mostViolated st0).2 = st0) ∨
    (satCond (mostViolated st0) = true ∧ ∃ st1, Inv2 st1 ∧ Covered st1 none ∧ st1.err = false ∧ Frame st0 st1 ∧
      satNext (mostViolated st0) = mostViolated st1 ∧
      satisfyLoop (n + 1) (mostViolated st0).1 (mostViolated st0).2 =
        satisfyLoop n (mostViolated st1).1 (mostViolated st1).2) := by
  cases hmv : (mostViolated st0).2 with
  | none =>
    obtain ⟨hf, he⟩ := exit_feasible st0 h.inv hcov (fun v hv => by rw [hmv] at hv; cases hv)
    refine Or.inl ⟨by unfold satCond; rw [hmv], he, hf, ?_⟩
    rw [satisfyLoop, he]
  | some v =>
    have h0 : satCond (mostViolated st0) =
        (slack (mostViolated st0).1 v < Gen.zeroUpperBound && !(getC (mostViolated st0).1 v).active) := by
      unfold satCond; rw [hmv]
    rw [satisfyLoop_succ, h0]
    by_cases hc : (slack (mostViolated st0).1 v < Gen.zeroUpperBound && !(getC (mostViolated st0).1 v).active) = true
    · obtain ⟨h1, c1, hv, hact, _⟩ := mostViolated_pre st0 h hcov v hmv hc
      obtain ⟨s2, h2, c2, serr, hF⟩ := satStep_spec (mostViolated st0).1 v h1 c1 hv hact ((mostViolated_err st0).trans herr)
      rw [if_pos hc, if_pos s2]
      exact Or.inr ⟨hc, _, h2, c2, serr, (mostViolated_frame st0 h.inv.wf).trans hF, by simp only [satNext, hmv], rfl⟩
    · obtain ⟨hf, he⟩ := exit_feasible st0 h.inv hcov (fun w hw => by
        rw [hmv] at hw; cases hw; simpa using hc)
      rw [if_neg hc]
      exact Or.inl ⟨Bool.eq_false_iff.2 hc, he, hf, he⟩

theorem satisfyLoop_spec : ∀ (fuel : Nat) (st0 : St), Inv2 st0 → Covered st0 none →
    (satisfyLoop fuel (mostViolated st0).1 (mostViolated st0).2).err = false →
    Settled st0 (satisfyLoop fuel (mostViolated st0).1 (mostViolated st0).2) ∧
    Feasible (satisfyLoop fuel (mostViolated st0).1 (mostViolated st0).2) := by
  intro fuel
  induction fuel with
  | zero => intro st0 _ _ herr; rw [satisfyLoop] at herr; cases herr
  | succ n ih =>
    intro st0 h hcov herr
    have herr0 : st0.err = false :=
      err_false_of_imp (fun e => satisfyLoop_errmono _ _ _ ((mostViolated_err st0).trans e)) herr
    rcases satisfyLoop_unroll n st0 h hcov herr0 with ⟨_, _, hf, e⟩ | ⟨_, st1, h1, c1, _, hF, _, e⟩
    · rw [e]; exact ⟨⟨herr0, h, hcov, Frame.refl _⟩, hf⟩
    · rw [e] at herr ⊢
      obtain ⟨g, f⟩ := ih st1 h1 c1 herr
      exact ⟨g.of_frame hF, f⟩

/-! ## `Blocks.split` -/

/-- the list object the `for` statement of `Blocks.split` iterates over, after a split -/
def splitL0 (st : St) (ci : Nat) (L0 : Array Nat) (al : Bool) : Array Nat :=
  if al then (removeSet (insertBlock (insertBlock (blockSplit st ci).1 (blockSplit st ci).2.1) (blockSplit st ci).2.2)
    (getV st (getC st ci).l).block).list else L0

theorem splitLoop_succ (fuel : Nat) (st : St) (L0 : Array Nat) (al : Bool) (i : Nat) :
    splitLoop (fuel + 1) st L0 al i =
      if h : i < L0.size then
        match (findMinLM st L0[i]).2 with
        | none => splitLoop fuel (findMinLM st L0[i]).1 L0 al (i + 1)
        | some ci =>
          if (getC (findMinLM st L0[i]).1 ci).lm < Gen.lagrangianTolerance then
            splitLoop fuel (splitOne (findMinLM st L0[i]).1 ci) (splitL0 (findMinLM st L0[i]).1 ci L0 al) false (i + 1)
          else splitLoop fuel (findMinLM st L0[i]).1 L0 al (i + 1)
      else st := by
  rw [splitLoop]
  rfl

theorem splitLoop_errmono : ∀ (fuel : Nat) (st : St) (L0 : Array Nat) (al : Bool) (i : Nat), st.err = true →
    (splitLoop fuel st L0 al i).err = true
  | 0, st, _, _, _, _ => by rw [splitLoop]
  | fuel + 1, st, L0, al, i, h => by
    rw [splitLoop_succ]
    split
    · have h1 := (findMinLM_coreEq st L0[i]).errmono h
      split
      · exact splitLoop_errmono _ _ _ _ _ h1
      · split
        · exact splitLoop_errmono fuel _ _ _ _ ((splitOne_err _ _).trans (blockSplit_err_sticky _ _ h1))
        · exact splitLoop_errmono _ _ _ _ _ h1
    · exact h

theorem splitL0_true (st : St) (ci : Nat) (L0 : Array Nat) (hinv : Inv st) (hci : ci < st.cs.size) :
    (splitL0 st ci L0 true).size = st.list.size + 2 ∧
    ∀ x ∈ (splitL0 st ci L0 true).toList, x ∈ st.list.toList ∨ x = st.bs.size ∨ x = st.bs.size + 1 := by
  simp only [splitL0, if_true]
  refine ⟨?_, fun x hx => ?_⟩
  · rw [removeSet_list_size, insertBlock_list, insertBlock_list, blockSplit_list st ci hinv hci]
    simp
  · have := removeSet_list_mem _ _ _ hx
    rw [insertBlock_list, insertBlock_list, blockSplit_list st ci hinv hci, (blockSplit_ids st ci).1,
      (blockSplit_ids st ci).2] at this
    simpa [or_assoc] using this

theorem splitOne_vars (st : St) (ci : Nat) (hinv : Inv st) (hci : ci < st.cs.size) (ha : (getC st ci).active = true)
    (herr : (blockSplit st ci).1.err = false) :
    (∀ b, b < st.bs.size → (getB (splitOne st ci) b).vars = (getB st b).vars) ∧
    (getB (splitOne st ci) st.bs.size).vars ≠ [] ∧ (getB (splitOne st ci) (st.bs.size + 1)).vars ≠ [] := by
  have D := blockSplit_desc st ci hinv hci ha herr
  have hB : ∀ b, (getB (splitOne st ci) b).vars = (getB (blockSplit st ci).1 b).vars := fun b => by
    rw [splitOne_eq, (quiet_setInactive _ _).getB]
    exact (((insertBlock_statEq _ _).trans (insertBlock_statEq _ _)).trans (removeBlock_statEq _ _)).bsame b |>.1
  refine ⟨fun b hb => ?_, ?_, ?_⟩
  · rw [hB, D.bother b (Nat.ne_of_lt hb) (Nat.ne_of_lt (Nat.lt_succ_of_lt hb))]
  · rw [hB]
    exact List.ne_nil_of_mem ((D.varsL _).2 (Conn.reflS _ _ _))
  · rw [hB]
    exact List.ne_nil_of_mem ((D.varsR _).2 (Conn.reflS _ _ _))

private theorem splitFuel_next {n b f i : Nat} (h : n + b ≤ f + 1 + i) : n + b ≤ f + (i + 1) := by omega

private theorem splitFuel_grow {n f i : Nat} (h : n + 3 ≤ f + 1 + i) : n + 2 + 1 ≤ f + (i + 1) := by omega

/-- the loop of `Blocks.split` keeps the invariants and does not run out of fuel: every listed block lists a variable (so
`findMinLM` finds a start), and the list the `for` statement iterates over grows by two entries at most once (while it is still
`self._list`).  Hence the fuel bound: one unit per index plus one for the call that finds the index past the end, and two
more while the list may still grow; `blocksSplit` starts with `st.list.size + 3`. -/
theorem splitLoop_spec : ∀ (fuel : Nat) (st : St) (L0 : Array Nat) (al : Bool) (i : Nat), Inv2 st → Covered st none →
    st.err = false → (∀ b ∈ L0.toList, (getB st b).vars ≠ []) → (al = true → st.list = L0) → i ≤ L0.size →
    L0.size + (if al = true then 3 else 1) ≤ fuel + i → Settled st (splitLoop fuel st L0 al i) := by
  intro fuel
  induction fuel with
  | zero =>
    intro st L0 al i _ _ _ _ _ hi hf
    have : 1 ≤ (if al = true then 3 else 1) := by split <;> decide
    omega
  | succ fuel ih =>
    intro st L0 al i h hcov herr hne hal hi hf
    rw [splitLoop_succ]
    by_cases hlt : i < L0.size
    · rw [dif_pos hlt]
      have hf' := splitFuel_next hf
      have hi' : i + 1 ≤ L0.size := hlt
      have hce := findMinLM_coreEq st L0[i]
      have hq := findMinLM_quiet st L0[i]
      have hsome := findMinLM_some st h.inv.wf L0[i]
      have e1 := findMinLM_noerr st h.inv herr L0[i] (hne _ (by simp))
      generalize findMinLM st L0[i] = fm at hce hq hsome e1 ⊢
      have h1 : Inv2 fm.1 := h.of_quiet hce hq
      have c1 : Covered fm.1 none := hcov.of_coreEq hce
      have hne1 : ∀ b ∈ L0.toList, (getB fm.1 b).vars ≠ [] := fun b hb => by rw [hq.getB]; exact hne b hb
      have hal1 : al = true → fm.1.list = L0 := fun h => hq.list_eq.trans (hal h)
      have hnext := (ih fm.1 L0 al (i + 1) h1 c1 e1 hne1 hal1 hi' hf').of_frame hce.toFrame
      cases hm : fm.2 with
      | none => exact hnext
      | some ci =>
        dsimp only
        obtain ⟨hci, hact⟩ := hsome ci hm
        have hci1 : ci < fm.1.cs.size := by rw [hce.csize]; exact hci
        have hact1 : (getC fm.1 ci).active = true := (hce.flags ci).1.trans hact
        by_cases hlm : (getC fm.1 ci).lm < Gen.lagrangianTolerance
        · rw [if_pos hlm]
          obtain ⟨es, p1, p2, p4, _⟩ := splitOne_spec fm.1 ci h1 hci1 hact1 e1
          obtain ⟨v1, v2, v3⟩ := splitOne_vars fm.1 ci h1.inv hci1 hact1 (blockSplit_noerr fm.1 ci h1.inv hci1 e1)
          have hold : ∀ b ∈ L0.toList, (getB (splitOne fm.1 ci) b).vars ≠ [] := fun b hb => by
            rw [v1 b (lt_of_vars_ne_nil (hne1 b hb))]; exact hne1 b hb
          refine Settled.of_frame (hce.toFrame.trans p4) ?_
          cases al with
          | false =>
            exact ih _ L0 false (i + 1) p1 (p2 _ c1) es hold (fun h => nomatch h) hi' hf'
          | true =>
            have hl := hal1 rfl
            obtain ⟨hsz, hmem⟩ := splitL0_true fm.1 ci L0 h1.inv hci1
            rw [hl] at hsz hmem
            refine ih _ _ false (i + 1) p1 (p2 _ c1) es ?_ (fun h => nomatch h) ?_ ?_
            · intro b hb
              rcases hmem b hb with h | h | h
              · exact hold b h
              · rw [h]; exact v2
              · rw [h]; exact v3
            · rw [hsz]; exact Nat.le_trans hi' (Nat.le_add_right _ _)
            · rw [hsz]; exact splitFuel_grow hf
        · rw [if_neg hlm]; exact hnext
    · rw [dif_neg hlt]; exact ⟨herr, h, hcov, Frame.refl _⟩

theorem blocksSplit_pre_coreEq (st : St) :
    CoreEq st (st.list.foldl (fun st b => updateWeightedPosition st b) st) := by
  rw [← Array.foldl_toList]
  exact FrameAux.foldl_inv (CoreEq st) _ _ _ (CoreEq.refl st) (fun s b _ h => h.trans (updateWeightedPosition_coreEq s b))

theorem blocksSplit_errmono (st : St) (h : st.err = true) : (blocksSplit st).err = true := by
  unfold blocksSplit
  exact splitLoop_errmono _ _ _ _ _ ((blocksSplit_pre_coreEq st).errmono h)

/-- the split pass of `satisfy`, entered with possibly stale block statistics (`ScaleInv` instead of `StatsInv`: `Blocks.split` starts
by recomputing them from the `vars` lists), raises no `err` and establishes all invariants -/
theorem blocksSplit_specW (st : St) (hinv : Inv st) (hnd : VarsNodup st) (hadj : AdjNodup st) (hL : ListInv st)
    (hS : ScaleInv st) (hcov : Covered st none) (herr : st.err = false) : Settled st (blocksSplit st) := by
  have hce := blocksSplit_pre_coreEq st
  have hpreS : StatsInv (st.list.foldl (fun st b => updateWeightedPosition st b) st) := by
    intro v hv
    rw [hce.vsize] at hv
    rw [FrameAux.getV_of_coreEq hce, ← Array.foldl_toList]
    exact foldl_uwp_statsB _ st _ (Or.inl ⟨hL.covers v hv, hinv.wf.block_lt v hv, hS v hv⟩)
  have hpreL : ListInv (st.list.foldl (fun st b => updateWeightedPosition st b) st) := by
    rw [← Array.foldl_toList]
    exact foldl_uwp_listInv _ st hL
  have herr' : (st.list.foldl (fun st b => updateWeightedPosition st b) st).err = false := by
    rw [← Array.foldl_toList]
    exact (FrameAux.foldl_inv (fun s : St => s.err = st.err) (fun st b => updateWeightedPosition st b) _ _ rfl
      (fun _ _ _ e => e)).trans herr
  unfold blocksSplit
  generalize st.list.foldl (fun st b => updateWeightedPosition st b) st = s1 at *
  have i1 : Inv s1 := hinv.of_coreEq hce
  refine Settled.of_frame hce.toFrame (splitLoop_spec _ s1 s1.list true 0 ⟨i1, hnd.of_coreEq hce, hadj.of_frame hce.toFrame, hpreL, hpreS⟩
    (hcov.of_coreEq hce) herr' (fun b hb => by
      obtain ⟨v, hv, e⟩ := hpreL.inuse b hb
      rw [← e]
      exact vars_ne_nil_of_inuse s1 i1 v hv) (fun _ => rfl) (Nat.zero_le _) (Nat.le_refl _))

theorem blocksSplit_inv2 (st : St) (h : Inv2 st) (hcov : Covered st none) (herr : st.err = false) :
    (blocksSplit st).err = false ∧ Inv2 (blocksSplit st) ∧ Covered (blocksSplit st) none ∧ Frame st (blocksSplit st) :=
  let ⟨a, b, c, d⟩ := blocksSplit_specW st h.inv h.nd h.adj h.list h.stats.scaleInv hcov herr
  ⟨a, b, c, d⟩

/-! ## `Solver.satisfy` and `Solver.solve`

`Blocks.split` starts every pass by recomputing the statistics of every listed block from its `vars` list, so at the entry of
`satisfy` and `solve` the weak `ScaleInv` is enough (the `…W` lemmas); after `setDesiredPositions` nothing more is left of
`StatsInv`. -/

theorem satisfy_errmono (fuel : Nat) (st : St) (h : st.err = true) : (satisfy fuel st).err = true := by
  unfold satisfy
  apply satisfyLoop_errmono
  rw [mostViolated_err]
  exact blocksSplit_errmono st h

theorem satisfy_specW (fuel : Nat) (st : St) (hinv : Inv st) (hnd : VarsNodup st) (hadj : AdjNodup st) (hL : ListInv st)
    (hS : ScaleInv st) (hcov : Covered st none) (herr : (satisfy fuel st).err = false) :
    Settled st (satisfy fuel st) ∧ Feasible (satisfy fuel st) := by
  obtain ⟨_, h1, c1, f1⟩ := blocksSplit_specW st hinv hnd hadj hL hS hcov (err_false_of_imp (satisfy_errmono fuel st) herr)
  unfold satisfy at herr ⊢
  obtain ⟨g, f⟩ := satisfyLoop_spec fuel (blocksSplit st) h1 c1 herr
  exact ⟨g.of_frame f1, f⟩

theorem satisfy_inv2 (sfuel : Nat) (st : St) (h : Inv2 st) (hcov : Covered st none) (herr : (satisfy sfuel st).err = false) :
    Inv2 (satisfy sfuel st) ∧ Covered (satisfy sfuel st) none ∧ Feasible (satisfy sfuel st) ∧ Frame st (satisfy sfuel st) :=
  let ⟨g, f⟩ := satisfy_specW sfuel st h.inv h.nd h.adj h.list h.stats.scaleInv hcov herr
  ⟨g.inv2, g.cov, f, g.frame⟩

theorem solveLoop_errmono : ∀ (fuel sfuel : Nat) (st : St) (lc c : Rat), st.err = true →
    (solveLoop fuel sfuel st lc c).1.err = true
  | 0, _, st, _, _, _ => by rw [solveLoop]
  | fuel + 1, sfuel, st, lc, c, h => by
    rw [solveLoop]
    split
    · exact solveLoop_errmono fuel sfuel _ _ _ (satisfy_errmono sfuel st h)
    · exact h

theorem solveLoop_spec : ∀ (fuel sfuel : Nat) (st : St) (lc c : Rat), Inv2 st → Covered st none → Feasible st → c = cost st →
    (solveLoop fuel sfuel st lc c).1.err = false →
    Settled st (solveLoop fuel sfuel st lc c).1 ∧ Feasible (solveLoop fuel sfuel st lc c).1 ∧
    (solveLoop fuel sfuel st lc c).2 = cost (solveLoop fuel sfuel st lc c).1 := by
  intro fuel
  induction fuel with
  | zero => intro _ st _ _ _ _ _ _ herr; rw [solveLoop] at herr; cases herr
  | succ fuel ih =>
    intro sfuel st lc c h hcov hfeas hc
    rw [solveLoop]
    by_cases hcond : ratAbs (lc - c) > Gen.solveCostTolerance
    · rw [if_pos hcond]
      intro herr
      obtain ⟨t1, t2, t3, t4⟩ := satisfy_inv2 sfuel st h hcov (err_false_of_imp (solveLoop_errmono fuel sfuel _ _ _) herr)
      obtain ⟨g, u3, u5⟩ := ih sfuel (satisfy sfuel st) c (cost (satisfy sfuel st)) t1 t2 t3 rfl herr
      exact ⟨g.of_frame t4, u3, u5⟩
    · rw [if_neg hcond]
      exact fun herr => ⟨⟨herr, h, hcov, Frame.refl _⟩, hfeas, hc⟩

theorem solve_specW (fuel sfuel : Nat) (st : St) (hinv : Inv st) (hnd : VarsNodup st) (hadj : AdjNodup st)
    (hL : ListInv st) (hS : ScaleInv st) (hcov : Covered st none) (herr : (solve fuel sfuel st).1.err = false) :
    Inv2 (solve fuel sfuel st).1 ∧ Covered (solve fuel sfuel st).1 none ∧ Feasible (solve fuel sfuel st).1 ∧
    Frame st (solve fuel sfuel st).1 ∧ (solve fuel sfuel st).2 = cost (solve fuel sfuel st).1 := by
  unfold solve at herr ⊢
  obtain ⟨t, t3⟩ := satisfy_specW sfuel st hinv hnd hadj hL hS hcov (err_false_of_imp (solveLoop_errmono fuel sfuel _ _ _) herr)
  obtain ⟨g, u3, u5⟩ := solveLoop_spec fuel sfuel (satisfy sfuel st) maxsize (cost (satisfy sfuel st)) t.inv2 t.cov t3 rfl herr
  exact ⟨g.inv2, g.cov, u3, t.frame.trans g.frame, u5⟩

theorem solve_spec2 (fuel sfuel : Nat) (st : St) (hinv : Inv st) (hnd : VarsNodup st) (hadj : AdjNodup st)
    (hcov : Covered st none) (hL : ListInv st) (hS : StatsInv st) (herr : (solve fuel sfuel st).1.err = false) :
    Inv (solve fuel sfuel st).1 ∧ VarsNodup (solve fuel sfuel st).1 ∧ AdjNodup (solve fuel sfuel st).1 ∧
    ListInv (solve fuel sfuel st).1 ∧ StatsInv (solve fuel sfuel st).1 ∧ Feasible (solve fuel sfuel st).1 := by
  obtain ⟨h2, _, hf, _⟩ := solve_specW fuel sfuel st hinv hnd hadj hL hS.scaleInv hcov herr
  exact ⟨h2.inv, h2.nd, h2.adj, h2.list, h2.stats, hf⟩

end Labella.Vpsc
