import Labella.Model.EngineT
import Labella.Proofs.LayoutSep
import Labella.Proofs.DistributeLemmas
import Labella.Proofs.PermLemmas
import Labella.Proofs.EngineTPure
import Mathlib.Data.List.Basic
import Mathlib.Data.List.Nodup
import Mathlib.Data.List.Perm.Basic
/-! # Helper lemmas for C06 / C04: the stateful engine `EngineT.computeT` computes the pure `Layout.compute`

The stateful run is related to the pure one through ghost layers of `(node id, Ref)` pairs: the first components are the layers
the stateful code builds, the second the layers of the pure model; the invariant `SInv` says that every node stands for its
`Ref` and where its `parent` / `child` links point.  The pure projections of the stub-creation loops are the loops of
`Proofs/EngineTPure.lean`. -/
namespace Labella.EngineT
open Labella Labella.Layout

/-! ## store primitives -/

@[simp] theorem size_set (s : Store) (i : Nat) (n : N) : (set s i n).size = s.size := by
  simp [set]

theorem get_set (s : Store) (i j : Nat) (n : N) :
    get (set s i n) j = if i = j ∧ i < s.size then n else get s j := by
  unfold get set
  rw [Array.getD_eq_getD_getElem?, Array.getD_eq_getD_getElem?, Array.getElem?_setIfInBounds]
  by_cases h : i = j
  · subst h
    by_cases h2 : i < s.size
    · simp [h2]
    · simp [h2]
  · simp [h]

theorem get_set_self {s : Store} {i : Nat} {n : N} (h : i < s.size) : get (set s i n) i = n := by
  rw [get_set]; simp [h]

theorem get_set_ne {s : Store} {i j : Nat} {n : N} (h : i ≠ j) : get (set s i n) j = get s j := by
  rw [get_set]; simp [h]

theorem get_ge {s : Store} {i : Nat} (h : s.size ≤ i) : get s i = default := by
  unfold get
  rw [Array.getD_eq_getD_getElem?]
  simp [h]

theorem get_push_lt {s : Store} {n : N} {i : Nat} (h : i < s.size) : get (s.push n) i = get s i := by
  unfold get
  rw [Array.getD_eq_getD_getElem?, Array.getD_eq_getD_getElem?, Array.getElem?_push]
  simp [Nat.ne_of_lt h]

theorem get_push_size (s : Store) (n : N) : get (s.push n) s.size = n := by
  unfold get
  rw [Array.getD_eq_getD_getElem?, Array.getElem?_push]
  simp

theorem get_set_field {β : Type} (g : N → β) {s : Store} {i j : Nat} {n : N} (h : g n = g (get s i)) :
    g (get (set s i n) j) = g (get s j) := by
  rw [get_set]
  split
  · next hh => rw [h, hh.1]
  · rfl

theorem get_set_set_field {β : Type} (g : N → β) {s : Store} {i j : Nat} {n m : N} (hn : g n = g (get s i))
    (hm : g m = g (get (set s i n) j)) (k : Nat) : g (get (set (set s i n) j m) k) = g (get s k) := by
  rw [get_set_field g hm, get_set_field g hn]

/-! ## `removeStub` -/

/-- what `removeStub` (and folds of it) may do to a store: clear `parent` and `child` links, nothing else -/
structure RS (s s' : Store) : Prop where
  size : s'.size = s.size
  ideal : ∀ k, (get s' k).ideal = (get s k).ideal
  width : ∀ k, (get s' k).width = (get s k).width
  cur : ∀ k, (get s' k).cur = (get s k).cur
  layerIndex : ∀ k, (get s' k).layerIndex = (get s k).layerIndex
  data : ∀ k, (get s' k).data = (get s k).data
  child : ∀ k, (get s' k).child = none ∨ (get s' k).child = (get s k).child
  parent : ∀ k, (get s' k).parent = none ∨ (get s' k).parent = (get s k).parent

theorem RS.refl (s : Store) : RS s s :=
  ⟨rfl, fun _ => rfl, fun _ => rfl, fun _ => rfl, fun _ => rfl, fun _ => rfl, fun _ => Or.inr rfl, fun _ => Or.inr rfl⟩

theorem RS.trans {a b c : Store} (h1 : RS a b) (h2 : RS b c) : RS a c where
  size := h2.size.trans h1.size
  ideal k := (h2.ideal k).trans (h1.ideal k)
  width k := (h2.width k).trans (h1.width k)
  cur k := (h2.cur k).trans (h1.cur k)
  layerIndex k := (h2.layerIndex k).trans (h1.layerIndex k)
  data k := (h2.data k).trans (h1.data k)
  child k := by
    rcases h2.child k with h | h
    · exact Or.inl h
    · rw [h]; exact h1.child k
  parent k := by
    rcases h2.parent k with h | h
    · exact Or.inl h
    · rw [h]; exact h1.parent k

theorem removeStub_RS (s : Store) (i : Nat) : RS s (removeStub s i) ∧ (get (removeStub s i) i).parent = none := by
  unfold removeStub
  cases hp : (get s i).parent with
  | none => exact ⟨RS.refl s, hp⟩
  | some p =>
    simp only
    have hi : i < s.size := by
      by_contra hc
      rw [get_ge (Nat.le_of_not_lt hc)] at hp
      cases hp
    refine ⟨⟨by simp, get_set_set_field (·.ideal) rfl rfl, get_set_set_field (·.width) rfl rfl,
      get_set_set_field (·.cur) rfl rfl, get_set_set_field (·.layerIndex) rfl rfl, get_set_set_field (·.data) rfl rfl,
      ?_, ?_⟩, ?_⟩
    · intro k
      rw [get_set_field (·.child) (by rfl), get_set]
      split
      · exact Or.inl rfl
      · exact Or.inr rfl
    · intro k
      rw [get_set]
      split
      · exact Or.inl rfl
      · rw [get_set_field (·.parent) (by rfl)]; exact Or.inr rfl
    · rw [get_set_self (by simpa using hi)]

theorem removeStub_fold (nodes : List Nat) (s : Store) :
    RS s (nodes.foldl removeStub s) ∧ ∀ i ∈ nodes, (get (nodes.foldl removeStub s) i).parent = none := by
  induction nodes generalizing s with
  | nil => exact ⟨RS.refl s, by simp⟩
  | cons a t ih =>
    rw [List.foldl_cons]
    obtain ⟨h1, h2⟩ := removeStub_RS s a
    obtain ⟨h3, h4⟩ := ih (removeStub s a)
    refine ⟨h1.trans h3, ?_⟩
    intro i hi
    rcases List.mem_cons.1 hi with rfl | hi
    · rcases h3.parent i with h | h
      · exact h
      · rw [h, h2]
    · exact h4 i hi


/-! ## lists of layers: an item appended to layer `j`, items found by layer -/

theorem mem_getD_modify_append {α : Type} {G : List (List α)} {j m : Nat} {a x : α} :
    x ∈ (G.modify j (· ++ [a])).getD m [] ↔ x ∈ G.getD m [] ∨ (m = j ∧ j < G.length ∧ x = a) := by
  rw [List.getD_eq_getElem?_getD, List.getD_eq_getElem?_getD, List.getElem?_modify]
  by_cases h : j = m
  · subst h
    by_cases h2 : j < G.length
    · simp [h2]
    · simp [h2]
  · have h' : ¬ m = j := fun e => h e.symm
    simp [h, h']

theorem flatten_modify_append_perm {α : Type} (G : List (List α)) (j : Nat) (a : α) (h : j < G.length) :
    (G.modify j (· ++ [a])).flatten.Perm (a :: G.flatten) := by
  induction G generalizing j with
  | nil => simp at h
  | cons l G ih =>
    cases j with
    | zero =>
      simp only [List.modify_zero_cons, List.flatten_cons, List.append_assoc, List.singleton_append]
      exact List.perm_middle
    | succ j =>
      simp only [List.modify_succ_cons, List.flatten_cons]
      have := ih j (by simpa using h)
      exact (this.append_left l).trans List.perm_middle
theorem mem_flatten_modify_append {α : Type} {G : List (List α)} {j : Nat} {a x : α} (h : j < G.length) :
    x ∈ (G.modify j (· ++ [a])).flatten ↔ x = a ∨ x ∈ G.flatten := by
  rw [(flatten_modify_append_perm G j a h).mem_iff, List.mem_cons]

theorem map_modify_append {α β : Type} (f : α → β) (G : List (List α)) (j : Nat) (a : α) :
    (G.modify j (· ++ [a])).map (List.map f) = (G.map (List.map f)).modify j (· ++ [f a]) := by
  induction G generalizing j with
  | nil => simp
  | cons l G ih =>
    cases j with
    | zero => simp
    | succ j => simp [ih]

theorem lt_length_of_mem_getD {α : Type} {G : List (List α)} {m : Nat} {x : α} (h : x ∈ G.getD m []) :
    m < G.length := by
  by_contra hc
  rw [getD_eq_default _ (Nat.le_of_not_lt hc)] at h
  cases h

theorem mem_flatten_of_mem_getD {α : Type} {G : List (List α)} {m : Nat} {x : α} (h : x ∈ G.getD m []) :
    x ∈ G.flatten := by
  have hm := lt_length_of_mem_getD h
  rw [getD_eq_getElem [] hm] at h
  exact List.mem_flatten.2 ⟨_, List.getElem_mem hm, h⟩

theorem exists_getD_of_mem_flatten {α : Type} {G : List (List α)} {x : α} (h : x ∈ G.flatten) :
    ∃ m, x ∈ G.getD m [] := by
  obtain ⟨l, hl, hx⟩ := List.mem_flatten.1 h
  obtain ⟨m, hm⟩ := List.mem_iff_getElem?.1 hl
  exact ⟨m, by rw [List.getD_eq_getElem?_getD, hm]; exact hx⟩

theorem layer_unique {α β : Type} (f : α → β) :
    ∀ (G : List (List α)), (G.flatten.map f).Nodup → ∀ (m m' : Nat) (x y : α),
      x ∈ G.getD m [] → y ∈ G.getD m' [] → f x = f y → x = y ∧ m = m' := by
  intro G hn m m' x y hx hy hf
  obtain rfl : x = y :=
    List.inj_on_of_nodup_map hn (mem_flatten_of_mem_getD hx) (mem_flatten_of_mem_getD hy) hf
  refine ⟨rfl, ?_⟩
  have hd := (List.nodup_flatten.1 hn.of_map).2
  rw [List.pairwise_iff_getElem] at hd
  have hm := lt_length_of_mem_getD hx
  have hm' := lt_length_of_mem_getD hy
  rw [getD_eq_getElem [] hm] at hx
  rw [getD_eq_getElem [] hm'] at hy
  rcases Nat.lt_trichotomy m m' with h | h | h
  · exact (hd m m' hm hm' h hx hy).elim
  · exact h
  · exact (hd m' m hm' hm h hy hx).elim

theorem getD_inj {nodes : List Nat} (hn : nodes.Nodup) {k k' : Nat} (hk : k < nodes.length) (hk' : k' < nodes.length)
    (h : nodes.getD k 0 = nodes.getD k' 0) : k = k' := by
  rw [getD_eq_getElem 0 hk, getD_eq_getElem 0 hk'] at h
  exact (hn.getElem_inj_iff).1 h

/-! ## the stub-creation loops against ghost layers -/

/-- ghost layers: each item is the node id the stateful code stores, paired with the `Ref` the pure model has in its place -/
abbrev GL := List (List (Nat × Ref))
def projT (G : GL) : List (List Nat) := G.map (List.map Prod.fst)
def projP (G : GL) : List (List Ref) := G.map (List.map Prod.snd)

/-! ### `createStub` -/

theorem createStub_snd (s : Store) (i : Nat) (w : Rat) : (createStub s i w).2 = s.size := rfl

theorem createStub_size (s : Store) (i : Nat) (w : Rat) : (createStub s i w).1.size = s.size + 1 := by
  simp [createStub]

theorem createStub_new (s : Store) (i : Nat) (w : Rat) (hi : i < s.size) :
    get (createStub s i w).1 s.size =
      { ideal := (get s i).ideal, width := w, cur := (get s i).cur, layerIndex := 0, parent := none,
        child := some i, data := (get s i).data } := by
  unfold createStub
  simp only
  rw [get_set_ne (Nat.ne_of_lt hi), get_push_size]

theorem createStub_self (s : Store) (i : Nat) (w : Rat) (hi : i < s.size) :
    get (createStub s i w).1 i = { get s i with parent := some s.size } := by
  unfold createStub
  simp only
  rw [get_set_self (by simp; omega), get_push_lt hi]

theorem createStub_other (s : Store) (i : Nat) (w : Rat) (k : Nat) (h1 : k ≠ i) (h2 : k ≠ s.size) :
    get (createStub s i w).1 k = get s k := by
  unfold createStub
  simp only
  rw [get_set_ne (Ne.symm h1)]
  rcases Nat.lt_or_ge k s.size with h | h
  · exact get_push_lt h
  · rw [get_ge h, get_ge (by simp; omega)]

theorem createStub_old (s : Store) (i : Nat) (w : Rat) (hi : i < s.size) (k : Nat) (hk : k < s.size) :
    get (createStub s i w).1 k = { get s k with parent := if k = i then some s.size else (get s k).parent } := by
  by_cases h : k = i
  · subst h; rw [createStub_self s k w hi, if_pos rfl]
  · rw [createStub_other s i w k h (Nat.ne_of_lt hk), if_neg h]

/-! ### the invariant linking store, ghost layers and the data of the labels -/

/-- node `x.1` stands for `x.2`: it is allocated and carries the data position / payload of the label and the width and stub
flag of the `Ref` -/
structure Rep (labels : List Label) (datas : List Nat) (sw : Rat) (s : Store) (x : Nat × Ref) : Prop where
  lt : x.1 < s.size
  ideal : (get s x.1).ideal = idealOf labels x.2.id
  data : (get s x.1).data = datas.getD x.2.id 0
  width : (get s x.1).width = if x.2.isStub then sw else widthOf labels x.2.id
  stub : (get s x.1).child.isSome = x.2.isStub

theorem Rep.congr {labels : List Label} {datas : List Nat} {sw : Rat} {s s' : Store} {x : Nat × Ref}
    (h : Rep labels datas sw s x) (hs : s.size ≤ s'.size) (hi : (get s' x.1).ideal = (get s x.1).ideal)
    (hw : (get s' x.1).width = (get s x.1).width) (hd : (get s' x.1).data = (get s x.1).data)
    (hc : (get s' x.1).child = (get s x.1).child) : Rep labels datas sw s' x :=
  ⟨Nat.lt_of_lt_of_le h.lt hs, hi.trans h.ideal, hd.trans h.data, hw.trans h.width, by rw [hc]; exact h.stub⟩

/-- what holds of store and ghost layers at every moment of the distributor's loops.  `nodes` are the engine's nodes, `n0` the
size of the store when the distributor started (everything allocated since is a stub of this layout): node ids are distinct,
every item stands for its `Ref`, label items are the engine's nodes and stub items are new, every parent link that is set points
to the stand-in of the same label one layer below, whose `child` points back, and every `child` link points to a stand-in of
the same label one layer above, which has a parent link -/
structure SInv (labels : List Label) (datas : List Nat) (sw : Rat) (nodes : List Nat) (n0 : Nat) (s : Store) (G : GL) :
    Prop where
  size : n0 ≤ s.size
  nodup : (G.flatten.map Prod.fst).Nodup
  rep : ∀ x ∈ G.flatten, Rep labels datas sw s x
  lab : ∀ x ∈ G.flatten, x.2.isStub = false → x.2.id < nodes.length ∧ x.1 = nodes.getD x.2.id 0
  stubNew : ∀ x ∈ G.flatten, x.2.isStub = true → n0 ≤ x.1
  par : ∀ m, ∀ x ∈ G.getD m [], ∀ p, (get s x.1).parent = some p →
    ∃ m' y, m = m' + 1 ∧ y ∈ G.getD m' [] ∧ y.1 = p ∧ y.2.id = x.2.id ∧ (get s p).child = some x.1
  cd : ∀ m, ∀ x ∈ G.getD m [], ∀ c, (get s x.1).child = some c →
    ∃ y ∈ G.getD (m + 1) [], y.1 = c ∧ y.2.id = x.2.id ∧ (get s c).parent ≠ none

section loops
variable {labels : List Label} {datas : List Nat} {sw : Rat} {nodes : List Nat} {n0 : Nat}

theorem SInv.createStub {s : Store} {G : GL} (h : SInv labels datas sw nodes n0 s G) (j cur : Nat) (rc : Ref)
    (hc : (cur, rc) ∈ G.getD (j + 1) []) :
    SInv labels datas sw nodes n0 (createStub s cur sw).1
      (G.modify j (· ++ [((createStub s cur sw).2, Ref.stub rc.id j)])) := by
  have hj : j < G.length := by have := lt_length_of_mem_getD hc; omega
  have hcf := mem_flatten_of_mem_getD hc
  have hcur : cur < s.size := (h.rep _ hcf).lt
  have hnew := createStub_new s cur sw hcur
  rw [createStub_snd]
  refine ⟨?_, ?_, ?_, ?_, ?_, ?_, ?_⟩
  · rw [createStub_size]; exact Nat.le_succ_of_le h.size
  · rw [((flatten_modify_append_perm G j _ hj).map Prod.fst).nodup_iff, List.map_cons, List.nodup_cons]
    refine ⟨fun hin => ?_, h.nodup⟩
    obtain ⟨x, hx, hxe⟩ := List.mem_map.1 hin
    exact Nat.lt_irrefl _ (hxe ▸ (h.rep x hx).lt)
  · intro x hx
    rcases (mem_flatten_modify_append hj).1 hx with rfl | hx
    · have hr := h.rep _ hcf
      exact ⟨by rw [createStub_size]; exact Nat.lt_succ_self _, by rw [hnew]; exact hr.ideal,
        by rw [hnew]; exact hr.data, by rw [hnew]; rfl, by rw [hnew]; rfl⟩
    · have e := createStub_old s cur sw hcur x.1 (h.rep x hx).lt
      exact (h.rep x hx).congr (by rw [createStub_size]; exact Nat.le_succ _) (by rw [e]) (by rw [e]) (by rw [e]) (by rw [e])
  · intro x hx hst
    rcases (mem_flatten_modify_append hj).1 hx with rfl | hx
    · cases hst
    · exact h.lab x hx hst
  · intro x hx hst
    rcases (mem_flatten_modify_append hj).1 hx with rfl | hx
    · exact h.size
    · exact h.stubNew x hx hst
  · intro m x hx p hp
    rcases mem_getD_modify_append.1 hx with hx | ⟨_, _, rfl⟩
    · rw [createStub_old s cur sw hcur x.1 (h.rep x (mem_flatten_of_mem_getD hx)).lt] at hp
      by_cases hxc : x.1 = cur
      · -- the node the stub was made for: its parent is the new stub
        obtain ⟨e1, e2⟩ := layer_unique Prod.fst G h.nodup m (j + 1) x (cur, rc) hx hc hxc
        rw [if_pos hxc] at hp
        obtain rfl : s.size = p := Option.some.inj hp
        refine ⟨j, (s.size, Ref.stub rc.id j), e2, ?_, rfl, by rw [e1]; rfl, by rw [hnew, hxc]⟩
        rw [mem_getD_modify_append]; right; exact ⟨rfl, hj, rfl⟩
      · rw [if_neg hxc] at hp
        obtain ⟨m', y, e, hy, hy1, hy2, hy3⟩ := h.par m x hx p hp
        have hpl : p < s.size := by rw [← hy1]; exact (h.rep y (mem_flatten_of_mem_getD hy)).lt
        refine ⟨m', y, e, mem_getD_modify_append.2 (Or.inl hy), hy1, hy2, ?_⟩
        rw [createStub_old s cur sw hcur p hpl]; exact hy3
    · rw [hnew] at hp; cases hp
  · intro m x hx c hcx
    rcases mem_getD_modify_append.1 hx with hx | ⟨hm, _, rfl⟩
    · rw [createStub_old s cur sw hcur x.1 (h.rep x (mem_flatten_of_mem_getD hx)).lt] at hcx
      obtain ⟨y, hy, hy1, hy2, hy3⟩ := h.cd m x hx c hcx
      refine ⟨y, mem_getD_modify_append.2 (Or.inl hy), hy1, hy2, ?_⟩
      rw [createStub_old s cur sw hcur c (hy1 ▸ (h.rep y (mem_flatten_of_mem_getD hy)).lt)]
      show (if c = cur then some s.size else (get s c).parent) ≠ none
      split
      · exact Option.some_ne_none _
      · exact hy3
    · rw [hnew] at hcx
      obtain rfl : cur = c := Option.some.inj hcx
      subst hm
      exact ⟨(cur, rc), mem_getD_modify_append.2 (Or.inl hc), rfl, rfl,
        by rw [createStub_self s cur sw hcur]; exact Option.some_ne_none _⟩

/-! ### `stubChain` -/

def stubChainG (w : Rat) (k : Nat) : Nat → Store → GL → Nat → Store × GL
  | 0, s, G, _ => (s, G)
  | j + 1, s, G, cur =>
    let r := createStub s cur w
    stubChainG w k j r.1 (G.modify j (· ++ [(r.2, Ref.stub k j)])) r.2

theorem stubChainG_T (w : Rat) (k : Nat) : ∀ (j : Nat) (s : Store) (G : GL) (cur : Nat),
    stubChain w j s (projT G) cur = ((stubChainG w k j s G cur).1, projT (stubChainG w k j s G cur).2)
  | 0, _, _, _ => rfl
  | j + 1, s, G, cur => by
    rw [stubChain, stubChainG, ← stubChainG_T w k j, projT, projT, map_modify_append]

theorem stubChainG_P (w : Rat) (k : Nat) : ∀ (j : Nat) (s : Store) (G : GL) (cur : Nat),
    projP (stubChainG w k j s G cur).2 = stubChainP k j (projP G)
  | 0, _, _, _ => rfl
  | j + 1, s, G, cur => by
    rw [stubChainP, stubChainG, stubChainG_P w k j, projP, projP, map_modify_append]

theorem stubChainG_inv (k : Nat) : ∀ (j : Nat) (s : Store) (G : GL) (cur : Nat) (rc : Ref),
    SInv labels datas sw nodes n0 s G → (cur, rc) ∈ G.getD j [] → rc.id = k →
    SInv labels datas sw nodes n0 (stubChainG sw k j s G cur).1 (stubChainG sw k j s G cur).2
  | 0, _, _, _, _, h, _, _ => h
  | j + 1, s, G, cur, rc, h, hc, hk => by
    rw [stubChainG]
    have hj : j < G.length := by have := lt_length_of_mem_getD hc; omega
    have h1 := h.createStub j cur rc hc
    rw [hk] at h1
    exact stubChainG_inv k j _ _ _ (Ref.stub k j) h1 (mem_getD_modify_append.2 (Or.inr ⟨rfl, hj, rfl⟩)) rfl

theorem stubChainG_extends (w : Rat) (k : Nat) : ∀ (j : Nat) (s : Store) (G : GL) (cur : Nat), cur < s.size →
    (∀ m, ∀ x ∈ G.getD m [], x ∈ (stubChainG w k j s G cur).2.getD m []) ∧
    (∀ m, ∀ x ∈ (stubChainG w k j s G cur).2.getD m [], x ∈ G.getD m [] ∨ (x.2.isStub = true ∧ s.size ≤ x.1)) ∧
    (stubChainG w k j s G cur).2.length = G.length ∧
    s.size ≤ (stubChainG w k j s G cur).1.size ∧
    (∀ i, i < s.size → i ≠ cur → get (stubChainG w k j s G cur).1 i = get s i) := by
  intro j
  induction j with
  | zero =>
    intro s G cur _
    exact ⟨fun _ _ h => h, fun _ _ h => Or.inl h, rfl, Nat.le_refl _, fun _ _ _ => rfl⟩
  | succ j ih =>
    intro s G cur hcur
    rw [stubChainG]
    obtain ⟨a, e, f, g, hfr⟩ := ih (createStub s cur w).1
      (G.modify j (· ++ [((createStub s cur w).2, Ref.stub k j)])) (createStub s cur w).2
      (by rw [createStub_size, createStub_snd]; exact Nat.lt_succ_self _)
    rw [createStub_size] at e g
    refine ⟨fun m x hx => a m x (mem_getD_modify_append.2 (Or.inl hx)), ?_,
      by rw [f, List.length_modify], by omega, ?_⟩
    · intro m x hx
      rcases e m x hx with hx | ⟨hx, hx2⟩
      · rcases mem_getD_modify_append.1 hx with hx | ⟨_, _, rfl⟩
        · exact Or.inl hx
        · exact Or.inr ⟨rfl, by rw [createStub_snd]⟩
      · exact Or.inr ⟨hx, by omega⟩
    · intro i hi hne
      rw [hfr i (by rw [createStub_size]; omega) (by rw [createStub_snd]; omega)]
      exact createStub_other s cur w i hne (Nat.ne_of_lt hi)

/-! ### the loops of `algorithm_overlap` -/

def layerStepG (w : Rat) (top : Nat) (acc : Store × GL) (x : Nat × Ref) : Store × GL :=
  if x.2.isStub then acc else stubChainG w x.2.id top acc.1 acc.2 x.1

def layerStepT (w : Rat) (top : Nat) (acc : Store × List (List Nat)) (node : Nat) : Store × List (List Nat) :=
  if isStub acc.1 node then acc else stubChain w top acc.1 acc.2 node

def overlapStubsG (w : Rat) : Nat → Store → GL → Store × GL
  | 0, s, G => (s, G)
  | i + 1, s, G =>
    let r := (G.getD (i + 1) []).foldl (layerStepG w (i + 1)) (s, G)
    overlapStubsG w i r.1 r.2

theorem projT_getD (G : GL) (m : Nat) : (projT G).getD m [] = (G.getD m []).map Prod.fst :=
  getD_map (List.map Prod.fst) G m []

theorem projP_getD (G : GL) (m : Nat) : (projP G).getD m [] = (G.getD m []).map Prod.snd :=
  getD_map (List.map Prod.snd) G m []

theorem layerFold_spec (top : Nat) : ∀ (todo : List (Nat × Ref)) (s : Store) (G : GL),
    SInv labels datas sw nodes n0 s G → (∀ x ∈ todo, x ∈ G.getD top []) →
    SInv labels datas sw nodes n0 (todo.foldl (layerStepG sw top) (s, G)).1 (todo.foldl (layerStepG sw top) (s, G)).2 ∧
    (todo.map Prod.fst).foldl (layerStepT sw top) (s, projT G) =
      ((todo.foldl (layerStepG sw top) (s, G)).1, projT (todo.foldl (layerStepG sw top) (s, G)).2) ∧
    projP (todo.foldl (layerStepG sw top) (s, G)).2 = (todo.map Prod.snd).foldl (layerStepP top) (projP G) := by
  intro todo
  induction todo with
  | nil => intro s G h _; exact ⟨h, rfl, rfl⟩
  | cons x rest ih =>
    intro s G h hsub
    have hx : x ∈ G.getD top [] := hsub x List.mem_cons_self
    have hr := h.rep x (mem_flatten_of_mem_getD hx)
    simp only [List.foldl_cons, List.map_cons]
    have step : SInv labels datas sw nodes n0 (layerStepG sw top (s, G) x).1 (layerStepG sw top (s, G) x).2 ∧
        (∀ y ∈ G.getD top [], y ∈ (layerStepG sw top (s, G) x).2.getD top []) ∧
        layerStepT sw top (s, projT G) x.1 = ((layerStepG sw top (s, G) x).1, projT (layerStepG sw top (s, G) x).2) ∧
        layerStepP top (projP G) x.2 = projP (layerStepG sw top (s, G) x).2 := by
      unfold layerStepG layerStepT layerStepP
      rw [show isStub s x.1 = x.2.isStub from hr.stub]
      split
      · exact ⟨h, fun _ hy => hy, rfl, rfl⟩
      · exact ⟨stubChainG_inv x.2.id top s G x.1 x.2 h hx rfl,
          (stubChainG_extends sw x.2.id top s G x.1 hr.lt).1 top, stubChainG_T sw x.2.id top s G x.1,
          (stubChainG_P sw x.2.id top s G x.1).symm⟩
    obtain ⟨s1, s2, s3, s4⟩ := step
    rw [s3, s4]
    exact ih _ _ s1 (fun y hy => s2 y (hsub y (List.mem_cons_of_mem x hy)))

theorem overlapStubsG_spec : ∀ (i : Nat) (s : Store) (G : GL), SInv labels datas sw nodes n0 s G →
    SInv labels datas sw nodes n0 (overlapStubsG sw i s G).1 (overlapStubsG sw i s G).2 ∧
    overlapStubs sw i s (projT G) = ((overlapStubsG sw i s G).1, projT (overlapStubsG sw i s G).2) ∧
    projP (overlapStubsG sw i s G).2 = overlapStubsP i (projP G) := by
  intro i
  induction i with
  | zero => intro s G h; exact ⟨h, rfl, rfl⟩
  | succ i ih =>
    intro s G h
    rw [overlapStubsG, overlapStubs, overlapStubsP]
    obtain ⟨a, d, e⟩ := layerFold_spec (i + 1) (G.getD (i + 1) []) s G h (fun x hx => hx)
    obtain ⟨a', c', d'⟩ := ih _ _ a
    refine ⟨a', ?_, by rw [d', e, projP_getD]⟩
    rw [← c']
    have : (fun (acc : Store × List (List Nat)) node =>
        if isStub acc.1 node then acc else stubChain sw (i + 1) acc.1 acc.2 node) = layerStepT sw (i + 1) := rfl
    rw [this, projT_getD, d]

/-! ### the loop of `algorithm_simple` -/

/-- an engine node that has not been placed yet: an allocated, parentless label carrying the data of label `k` -/
structure IsLabel (labels : List Label) (datas : List Nat) (s : Store) (node k : Nat) : Prop where
  lt : node < s.size
  ideal : (get s node).ideal = idealOf labels k
  width : (get s node).width = widthOf labels k
  data : (get s node).data = datas.getD k 0
  child : (get s node).child = none
  parent : (get s node).parent = none

theorem IsLabel.congr {s s' : Store} {node k : Nat} (h : IsLabel labels datas s node k) (hs : s.size ≤ s'.size)
    (e : get s' node = get s node) : IsLabel labels datas s' node k :=
  ⟨Nat.lt_of_lt_of_le h.lt hs, by rw [e]; exact h.ideal, by rw [e]; exact h.width, by rw [e]; exact h.data,
    by rw [e]; exact h.child, by rw [e]; exact h.parent⟩

theorem SInv.addLabel {s : Store} {G : GL} (h : SInv labels datas sw nodes n0 s G) (md k : Nat)
    (hl : IsLabel labels datas s (nodes.getD k 0) k) (hk : k < nodes.length)
    (hfresh : nodes.getD k 0 ∉ G.flatten.map Prod.fst) (hmd : md < G.length) :
    SInv labels datas sw nodes n0 s (G.modify md (· ++ [(nodes.getD k 0, Ref.label k)])) := by
  refine ⟨h.size, ?_, ?_, ?_, ?_, ?_, ?_⟩
  · rw [((flatten_modify_append_perm G md _ hmd).map Prod.fst).nodup_iff, List.map_cons, List.nodup_cons]
    exact ⟨hfresh, h.nodup⟩
  · intro x hx
    rcases (mem_flatten_modify_append hmd).1 hx with rfl | hx
    · exact ⟨hl.lt, hl.ideal, hl.data, hl.width, by rw [hl.child]; rfl⟩
    · exact h.rep x hx
  · intro x hx hst
    rcases (mem_flatten_modify_append hmd).1 hx with rfl | hx
    · exact ⟨hk, rfl⟩
    · exact h.lab x hx hst
  · intro x hx hst
    rcases (mem_flatten_modify_append hmd).1 hx with rfl | hx
    · cases hst
    · exact h.stubNew x hx hst
  · intro m x hx p hp
    rcases mem_getD_modify_append.1 hx with hx | ⟨_, _, rfl⟩
    · obtain ⟨m', y, e, hy, hy'⟩ := h.par m x hx p hp
      exact ⟨m', y, e, mem_getD_modify_append.2 (Or.inl hy), hy'⟩
    · rw [hl.parent] at hp; cases hp
  · intro m x hx c hcx
    rcases mem_getD_modify_append.1 hx with hx | ⟨_, _, rfl⟩
    · obtain ⟨y, hy, hy'⟩ := h.cd m x hx c hcx
      exact ⟨y, mem_getD_modify_append.2 (Or.inl hy), hy'⟩
    · rw [hl.child] at hcx; cases hcx

/-- one step of the simple loop for the pair (label index, position in the sorted order) -/
def simpleStepG (w : Rat) (nl : Nat) (nodes : List Nat) (acc : Store × GL) (p : Nat × Nat) : Store × GL :=
  stubChainG w p.1 (p.2 % nl) acc.1 (acc.2.modify (p.2 % nl) (· ++ [(nodes.getD p.1 0, Ref.label p.1)])) (nodes.getD p.1 0)

def simpleStepT (w : Rat) (nl : Nat) (acc : Store × List (List Nat)) (p : Nat × Nat) : Store × List (List Nat) :=
  stubChain w (p.2 % nl) acc.1 (acc.2.modify (p.2 % nl) (· ++ [p.1])) p.1

theorem simpleLoop_eq (w : Rat) (nl : Nat) (nodes : List Nat) (s : Store) :
    simpleLoop w nl nodes s = nodes.zipIdx.foldl (simpleStepT w nl) (s, List.replicate nl []) := rfl

theorem simpleFold_spec (nl : Nat) (hnl : 0 < nl) (hn : nodes.Nodup) : ∀ (todo : List (Nat × Nat)) (s : Store) (G : GL),
    SInv labels datas sw nodes n0 s G → G.length = nl → (todo.map Prod.fst).Nodup →
    (∀ p ∈ todo, p.1 < nodes.length ∧ IsLabel labels datas s (nodes.getD p.1 0) p.1 ∧
      nodes.getD p.1 0 ∉ G.flatten.map Prod.fst) →
    SInv labels datas sw nodes n0 (todo.foldl (simpleStepG sw nl nodes) (s, G)).1
      (todo.foldl (simpleStepG sw nl nodes) (s, G)).2 ∧
    (todo.map (Prod.map (fun k => nodes.getD k 0) id)).foldl (simpleStepT sw nl) (s, projT G) =
      ((todo.foldl (simpleStepG sw nl nodes) (s, G)).1, projT (todo.foldl (simpleStepG sw nl nodes) (s, G)).2) ∧
    projP (todo.foldl (simpleStepG sw nl nodes) (s, G)).2 = todo.foldl (simpleStepP nl) (projP G) := by
  intro todo
  induction todo with
  | nil => intro s G h _ _ _; exact ⟨h, rfl, rfl⟩
  | cons p rest ih =>
    intro s G h hlen hnd hlab
    simp only [List.foldl_cons, List.map_cons]
    obtain ⟨hpk, hl, hfresh⟩ := hlab p (by simp)
    have hmd : p.2 % nl < G.length := by rw [hlen]; exact Nat.mod_lt _ hnl
    have h1 := h.addLabel (p.2 % nl) p.1 hl hpk hfresh hmd
    have e1 : simpleStepG sw nl nodes (s, G) p = stubChainG sw p.1 (p.2 % nl) s
        (G.modify (p.2 % nl) (· ++ [(nodes.getD p.1 0, Ref.label p.1)])) (nodes.getD p.1 0) := rfl
    have e2 : simpleStepT sw nl (s, projT G) (Prod.map (fun k => nodes.getD k 0) id p) =
        ((simpleStepG sw nl nodes (s, G) p).1, projT (simpleStepG sw nl nodes (s, G) p).2) := by
      rw [e1, ← stubChainG_T, projT, projT, map_modify_append]
      rfl
    have e3 : simpleStepP nl (projP G) p = projP (simpleStepG sw nl nodes (s, G) p).2 := by
      rw [e1, stubChainG_P, projP, projP, map_modify_append]
      rfl
    rw [e2, e3]
    have hinv := stubChainG_inv p.1 (p.2 % nl) s _ _ (Ref.label p.1) h1
      (mem_getD_modify_append.2 (Or.inr ⟨rfl, hmd, rfl⟩)) rfl
    obtain ⟨-, pe, pf, pg, ph⟩ := stubChainG_extends sw p.1 (p.2 % nl) s
      (G.modify (p.2 % nl) (· ++ [(nodes.getD p.1 0, Ref.label p.1)])) (nodes.getD p.1 0) hl.lt
    rw [← e1] at hinv pe pf pg ph
    clear e2 e3
    generalize simpleStepG sw nl nodes (s, G) p = r1 at *
    have hnd' := List.nodup_cons.1 hnd
    refine ih _ _ hinv (by rw [pf, List.length_modify, hlen]) hnd'.2 ?_
    intro q hq
    obtain ⟨hqk, hql, hqf⟩ := hlab q (by simp [hq])
    have hne : nodes.getD q.1 0 ≠ nodes.getD p.1 0 := fun e =>
      hnd'.1 (List.mem_map.2 ⟨q, hq, getD_inj hn hqk hpk e⟩)
    refine ⟨hqk, hql.congr pg (ph _ hql.lt hne), fun hmem => ?_⟩
    obtain ⟨x, hx, hxe⟩ := List.mem_map.1 hmem
    obtain ⟨m, hxm⟩ := exists_getD_of_mem_flatten hx
    rcases pe m x hxm with hx' | ⟨_, hx'⟩
    · rcases mem_getD_modify_append.1 hx' with hx' | ⟨_, _, rfl⟩
      · exact hqf (by rw [← hxe]; exact List.mem_map_of_mem (mem_flatten_of_mem_getD hx'))
      · exact hne hxe.symm
    · have := hql.lt
      omega

end loops


/-! ## frame: nothing the engine does changes data position, width, payload of an existing node or turns a label into a stub -/

/-- free to change: `cur`, `layerIndex`, `parent`, the `child` of a stub, and nodes may be added -/
structure Frame (s s' : Store) : Prop where
  size : s.size ≤ s'.size
  ideal : ∀ i, i < s.size → (get s' i).ideal = (get s i).ideal
  width : ∀ i, i < s.size → (get s' i).width = (get s i).width
  data : ∀ i, i < s.size → (get s' i).data = (get s i).data
  child : ∀ i, i < s.size → (get s i).child = none → (get s' i).child = none

theorem Frame.refl (s : Store) : Frame s s :=
  ⟨Nat.le_refl _, fun _ _ => rfl, fun _ _ => rfl, fun _ _ => rfl, fun _ _ h => h⟩

theorem Frame.trans {a b c : Store} (h1 : Frame a b) (h2 : Frame b c) : Frame a c where
  size := Nat.le_trans h1.size h2.size
  ideal i hi := (h2.ideal i (Nat.lt_of_lt_of_le hi h1.size)).trans (h1.ideal i hi)
  width i hi := (h2.width i (Nat.lt_of_lt_of_le hi h1.size)).trans (h1.width i hi)
  data i hi := (h2.data i (Nat.lt_of_lt_of_le hi h1.size)).trans (h1.data i hi)
  child i hi hc := h2.child i (Nat.lt_of_lt_of_le hi h1.size) (h1.child i hi hc)

theorem RS.frame {s s' : Store} (h : RS s s') : Frame s s' where
  size := by rw [h.size]
  ideal i _ := h.ideal i
  width i _ := h.width i
  data i _ := h.data i
  child i _ hc := by
    rcases h.child i with h' | h'
    · exact h'
    · rw [h', hc]

theorem createStub_frame (s : Store) (i : Nat) (w : Rat) : Frame s (createStub s i w).1 := by
  have key : ∀ k, k < s.size → ∃ p, get (createStub s i w).1 k = { get s k with parent := p } := by
    intro k hk
    by_cases hi : i < s.size
    · exact ⟨_, createStub_old s i w hi k hk⟩
    · exact ⟨(get s k).parent, createStub_other s i w k (by omega) (by omega)⟩
  refine ⟨by rw [createStub_size]; omega, fun k hk => ?_, fun k hk => ?_, fun k hk => ?_, fun k hk hc => ?_⟩
  all_goals obtain ⟨p, e⟩ := key k hk; rw [e]
  exact hc

theorem stubChain_frame (w : Rat) : ∀ (j : Nat) (s : Store) (layers : List (List Nat)) (cur : Nat),
    Frame s (stubChain w j s layers cur).1 := by
  intro j
  induction j with
  | zero => intro s layers cur; exact Frame.refl s
  | succ j ih =>
    intro s layers cur
    rw [stubChain]
    exact (createStub_frame s cur w).trans (ih _ _ _)

theorem foldl_frame {α : Type} (f : Store × List (List Nat) → α → Store × List (List Nat))
    (hf : ∀ acc x, Frame acc.1 (f acc x).1) (l : List α) (acc : Store × List (List Nat)) :
    Frame acc.1 (l.foldl f acc).1 :=
  foldl_invariant (fun acc' => Frame acc.1 acc'.1) f (fun w x h => h.trans (hf w x)) l acc (Frame.refl _)

theorem overlapStubs_frame (w : Rat) : ∀ (i : Nat) (s : Store) (layers : List (List Nat)),
    Frame s (overlapStubs w i s layers).1 := by
  intro i
  induction i with
  | zero => intro s layers; exact Frame.refl s
  | succ i ih =>
    intro s layers
    rw [overlapStubs]
    refine Frame.trans ?_ (ih _ _)
    refine foldl_frame _ ?_ _ (s, layers)
    intro acc x
    split
    · exact Frame.refl _
    · exact stubChain_frame _ _ _ _ _

theorem distributeT_frame (o : DOpts) (s : Store) (nodes : List Nat) : Frame s (distributeT o s nodes).1 := by
  unfold distributeT
  split
  · exact Frame.refl s
  · split
    · exact Frame.refl s
    · simp only
      split
      · exact Frame.refl s
      · split
        · exact foldl_frame _ (fun _ _ => stubChain_frame _ _ _ _ _) _ (s, _)
        · exact overlapStubs_frame _ _ _ _


/-! ## `distributeT` -/

theorem alg_cases {a : Alg} (h : a ≠ .none) : a = .simple ∨ a = .overlap := by
  cases a with
  | none => exact absurd rfl h
  | simple => exact Or.inl rfl
  | overlap => exact Or.inr rfl

theorem distributeT_nil (o : DOpts) (s : Store) : distributeT o s [] = (s, [], false) := by
  simp [distributeT]

theorem distributeT_none (o : DOpts) (s : Store) (nodes : List Nat) (hne : nodes ≠ []) (h : o.algorithm = .none) :
    distributeT o s nodes = (s, [nodes], true) := by
  unfold distributeT
  rw [h]
  simp [hne]

theorem distributeT_single (o : DOpts) (s : Store) (nodes : List Nat) (hne : nodes ≠ []) (h : o.algorithm ≠ .none)
    (hnl : estimateLayers o ((sortIds (labelsOf s nodes)).map (widthOf (labelsOf s nodes))) ≤ 1) :
    distributeT o s nodes = (s, [(sortIds (labelsOf s nodes)).map (fun k => nodes.getD k 0)], false) := by
  unfold distributeT
  rw [if_neg (by simpa using hne)]
  cases halg : o.algorithm with
  | none => exact absurd halg h
  | _ => simp only [if_pos hnl]

theorem distributeT_simple (o : DOpts) (s : Store) (nodes : List Nat) (hne : nodes ≠ []) (h : o.algorithm = .simple)
    (hnl : ¬ estimateLayers o ((sortIds (labelsOf s nodes)).map (widthOf (labelsOf s nodes))) ≤ 1) :
    distributeT o s nodes =
      let r := simpleLoop o.stubWidth (estimateLayers o ((sortIds (labelsOf s nodes)).map (widthOf (labelsOf s nodes)))).toNat
        ((sortIds (labelsOf s nodes)).map (fun k => nodes.getD k 0)) s
      (r.1, r.2, false) := by
  unfold distributeT
  rw [if_neg (by simpa using hne), h]
  simp only [if_neg hnl]

theorem distributeT_overlap (o : DOpts) (s : Store) (nodes : List Nat) (hne : nodes ≠ []) (h : o.algorithm = .overlap)
    (hnl : ¬ estimateLayers o ((sortIds (labelsOf s nodes)).map (widthOf (labelsOf s nodes))) ≤ 1) :
    distributeT o s nodes =
      let L := overlapLayers (labelsOf s nodes) o (maxWidthPerLayer o) ((sortIds (labelsOf s nodes)).length + 1)
        (sortIds (labelsOf s nodes))
      let r := overlapStubs o.stubWidth (L.length - 1) s (L.map (fun l => l.map (fun k => nodes.getD k 0)))
      (r.1, r.2, false) := by
  unfold distributeT
  rw [if_neg (by simpa using hne), h]
  simp only [if_neg hnl, List.length_map]

/-- the engine's node list after the stale stubs have been unlinked -/
structure Clean (s : Store) (nodes : List Nat) : Prop where
  lt : ∀ i ∈ nodes, i < s.size
  nodup : nodes.Nodup
  child : ∀ i ∈ nodes, (get s i).child = none
  parent : ∀ i ∈ nodes, (get s i).parent = none

def datasOf (s : Store) (nodes : List Nat) : List Nat := nodes.map (fun i => (get s i).data)

theorem labelsOf_length (s : Store) (nodes : List Nat) : (labelsOf s nodes).length = nodes.length := by
  simp [labelsOf]

theorem isLabel_of_clean {s : Store} {nodes : List Nat} (hc : Clean s nodes) (k : Nat) (hk : k < nodes.length) :
    IsLabel (labelsOf s nodes) (datasOf s nodes) s (nodes.getD k 0) k := by
  have hm : nodes.getD k 0 ∈ nodes := getD_mem hk
  refine ⟨hc.lt _ hm, ?_, ?_, ?_, hc.child _ hm, hc.parent _ hm⟩
  · simp [idealOf, labelsOf, hk]
  · simp [widthOf, labelsOf, hk]
  · simp [datasOf, hk]

def labelGL (nodes : List Nat) (L : List (List Nat)) : GL :=
  L.map (List.map (fun k => (nodes.getD k 0, Ref.label k)))

theorem projT_labelGL (nodes : List Nat) (L : List (List Nat)) :
    projT (labelGL nodes L) = L.map (List.map (fun k => nodes.getD k 0)) := by
  simp [projT, labelGL, Function.comp_def]

theorem projP_labelGL (nodes : List Nat) (L : List (List Nat)) :
    projP (labelGL nodes L) = L.map (List.map Ref.label) := by
  simp [projP, labelGL, Function.comp_def]

theorem flatten_labelGL (nodes : List Nat) (L : List (List Nat)) :
    (labelGL nodes L).flatten = L.flatten.map (fun k => (nodes.getD k 0, Ref.label k)) := by
  unfold labelGL
  rw [List.map_flatten]

theorem SInv_labelGL {s : Store} {nodes : List Nat} (hc : Clean s nodes) (sw : Rat) (L : List (List Nat))
    (hn : L.flatten.Nodup) (hlt : ∀ k ∈ L.flatten, k < nodes.length) :
    SInv (labelsOf s nodes) (datasOf s nodes) sw nodes s.size s (labelGL nodes L) := by
  have hmem : ∀ x ∈ (labelGL nodes L).flatten, ∃ k, k < nodes.length ∧
      IsLabel (labelsOf s nodes) (datasOf s nodes) s (nodes.getD k 0) k ∧ x = (nodes.getD k 0, Ref.label k) := by
    intro x hx
    rw [flatten_labelGL] at hx
    obtain ⟨k, hk, rfl⟩ := List.mem_map.1 hx
    exact ⟨k, hlt k hk, isLabel_of_clean hc k (hlt k hk), rfl⟩
  refine ⟨Nat.le_refl _, ?_, ?_, ?_, ?_, ?_, ?_⟩
  · rw [flatten_labelGL, List.map_map]
    exact hn.map_on (fun a ha b hb hab => getD_inj hc.nodup (hlt a ha) (hlt b hb) hab)
  · intro x hx
    obtain ⟨k, _, hl, rfl⟩ := hmem x hx
    exact ⟨hl.lt, hl.ideal, hl.data, hl.width, by rw [hl.child]; rfl⟩
  · intro x hx _
    obtain ⟨k, hk, _, rfl⟩ := hmem x hx
    exact ⟨hk, rfl⟩
  · intro x hx hst
    obtain ⟨k, _, _, rfl⟩ := hmem x hx
    cases hst
  · intro m x hx p hp
    obtain ⟨k, _, hl, rfl⟩ := hmem x (mem_flatten_of_mem_getD hx)
    rw [hl.parent] at hp
    cases hp
  · intro m x hx c hcx
    obtain ⟨k, _, hl, rfl⟩ := hmem x (mem_flatten_of_mem_getD hx)
    rw [hl.child] at hcx
    cases hcx

theorem distributeT_spec (o : DOpts) (s : Store) (nodes : List Nat) (hc : Clean s nodes) :
    ∃ G : GL, (distributeT o s nodes).2.1 = projT G ∧ distribute o (labelsOf s nodes) = projP G ∧
      SInv (labelsOf s nodes) (datasOf s nodes) o.stubWidth nodes s.size (distributeT o s nodes).1 G := by
  by_cases hne : nodes = []
  · subst hne
    rw [distributeT_nil]
    exact ⟨[], rfl, distribute_nil o, SInv_labelGL hc o.stubWidth [] List.nodup_nil (by simp)⟩
  have hlne : labelsOf s nodes ≠ [] := fun h =>
    hne (List.length_eq_zero_iff.1 (by rw [← labelsOf_length s, h]; rfl))
  by_cases hnone : o.algorithm = .none
  · rw [distributeT_none o s nodes hne hnone, distribute_none o _ hlne hnone, labelsOf_length]
    exact ⟨labelGL nodes [List.range nodes.length], by rw [projT_labelGL, List.map_singleton, range_map_getD],
      (projP_labelGL nodes [List.range nodes.length]).symm,
      SInv_labelGL hc o.stubWidth _ (by simpa using List.nodup_range) (by simp)⟩
  have hperm := sortIds_perm (labelsOf s nodes)
  rw [labelsOf_length] at hperm
  have hidn : (sortIds (labelsOf s nodes)).Nodup := hperm.nodup_iff.2 List.nodup_range
  have hidlt : ∀ k ∈ sortIds (labelsOf s nodes), k < nodes.length := fun k hk => List.mem_range.1 (hperm.subset hk)
  by_cases hnl : estimateLayers o ((sortIds (labelsOf s nodes)).map (widthOf (labelsOf s nodes))) ≤ 1
  · rw [distributeT_single o s nodes hne hnone hnl, distribute_single o _ hlne hnone hnl]
    exact ⟨labelGL nodes [sortIds (labelsOf s nodes)], (projT_labelGL nodes [sortIds (labelsOf s nodes)]).symm,
      (projP_labelGL nodes [sortIds (labelsOf s nodes)]).symm,
      SInv_labelGL hc o.stubWidth _ (by simpa using hidn) (by simpa using hidlt)⟩
  rcases alg_cases hnone with halg | halg
  · -- `algorithm_simple`
    rw [distributeT_simple o s nodes hne halg hnl, distribute_simple o _ hlne halg hnl]
    dsimp only
    generalize hnlv : (estimateLayers o ((sortIds (labelsOf s nodes)).map (widthOf (labelsOf s nodes)))).toNat = nl
    have hnlpos : 0 < nl := by rw [← hnlv]; omega
    have hG0 : SInv (labelsOf s nodes) (datasOf s nodes) o.stubWidth nodes s.size s (List.replicate nl []) := by
      simpa [labelGL] using SInv_labelGL hc o.stubWidth (List.replicate nl []) (by simp) (by simp)
    obtain ⟨a, c, d⟩ := simpleFold_spec nl hnlpos hc.nodup (sortIds (labelsOf s nodes)).zipIdx s (List.replicate nl [])
      hG0 (by simp) (by rw [List.zipIdx_map_fst]; exact hidn)
      (fun p hp => by
        have hk := hidlt p.1 (by rw [← List.zipIdx_map_fst 0 (sortIds (labelsOf s nodes))]; exact List.mem_map_of_mem hp)
        exact ⟨hk, isLabel_of_clean hc p.1 hk, by simp⟩)
    have eT : projT (List.replicate nl ([] : List (Nat × Ref))) = List.replicate nl [] := by simp [projT]
    have eP : projP (List.replicate nl ([] : List (Nat × Ref))) = List.replicate nl [] := by simp [projP]
    rw [eT] at c
    rw [eP, simpleLoopP_simpleLayers] at d
    rw [simpleLoop_eq, List.zipIdx_map, c]
    exact ⟨_, rfl, d.symm, a⟩
  · -- `algorithm_overlap`
    rw [distributeT_overlap o s nodes hne halg hnl, distribute_overlap o _ hlne halg hnl]
    dsimp only
    generalize hL : overlapLayers (labelsOf s nodes) o (maxWidthPerLayer o) ((sortIds (labelsOf s nodes)).length + 1)
      (sortIds (labelsOf s nodes)) = L
    have hLp : L.flatten.Perm (sortIds (labelsOf s nodes)) := by rw [← hL]; exact overlapLayers_perm _ _ _ _ _
    obtain ⟨a, c, d⟩ := overlapStubsG_spec (L.length - 1) s (labelGL nodes L)
      (SInv_labelGL hc o.stubWidth L (hLp.nodup_iff.2 hidn) (fun k hk => hidlt k (hLp.subset hk)))
    rw [projT_labelGL] at c
    rw [projP_labelGL, overlapStubsP_withStubs] at d
    rw [c]
    exact ⟨_, rfl, d.symm, a⟩

/-! ## `removeOverlapT` on one layer -/

/-- what the per-layer loop may do to a store: write `cur` and `layerIndex`, nothing else -/
structure CL (s s' : Store) : Prop where
  size : s'.size = s.size
  ideal : ∀ i, (get s' i).ideal = (get s i).ideal
  width : ∀ i, (get s' i).width = (get s i).width
  data : ∀ i, (get s' i).data = (get s i).data
  child : ∀ i, (get s' i).child = (get s i).child
  parent : ∀ i, (get s' i).parent = (get s i).parent

theorem CL.refl (s : Store) : CL s s := ⟨rfl, fun _ => rfl, fun _ => rfl, fun _ => rfl, fun _ => rfl, fun _ => rfl⟩

theorem CL.trans {a b c : Store} (h1 : CL a b) (h2 : CL b c) : CL a c where
  size := h2.size.trans h1.size
  ideal i := (h2.ideal i).trans (h1.ideal i)
  width i := (h2.width i).trans (h1.width i)
  data i := (h2.data i).trans (h1.data i)
  child i := (h2.child i).trans (h1.child i)
  parent i := (h2.parent i).trans (h1.parent i)

theorem CL.frame {s s' : Store} (h : CL s s') : Frame s s' where
  size := by rw [h.size]
  ideal i _ := h.ideal i
  width i _ := h.width i
  data i _ := h.data i
  child i _ hc := by rw [h.child i, hc]

/-! ### folds of `set`: the record `upd a` written to node `key a` for every `a` of a list -/

section foldlSet
variable {α : Type} (key : α → Nat) (upd : α → N → N)

theorem foldl_set_size : ∀ (l : List α) (s : Store),
    (l.foldl (fun s a => set s (key a) (upd a (get s (key a)))) s).size = s.size
  | [], _ => rfl
  | a :: l, s => by rw [List.foldl_cons, foldl_set_size l, size_set]

theorem foldl_set_field {β : Type} (g : N → β) (hg : ∀ a n, g (upd a n) = g n) : ∀ (l : List α) (s : Store) (i : Nat),
    g (get (l.foldl (fun s a => set s (key a) (upd a (get s (key a)))) s) i) = g (get s i)
  | [], _, _ => rfl
  | a :: l, s, i => by
    rw [List.foldl_cons, foldl_set_field g hg l]
    exact get_set_field g (hg _ _)

theorem foldl_set_other : ∀ (l : List α) (s : Store) (i : Nat), i ∉ l.map key →
    get (l.foldl (fun s a => set s (key a) (upd a (get s (key a)))) s) i = get s i
  | [], _, _, _ => rfl
  | a :: l, s, i, hi => by
    rw [List.map_cons, List.mem_cons, not_or] at hi
    rw [List.foldl_cons, foldl_set_other l _ i hi.2, get_set_ne (Ne.symm hi.1)]

theorem foldl_set_self : ∀ (l : List α) (s : Store), (l.map key).Nodup → ∀ a ∈ l, key a < s.size →
    get (l.foldl (fun s a => set s (key a) (upd a (get s (key a)))) s) (key a) = upd a (get s (key a))
  | a :: l, s, hn, b, hb, hlt => by
    rw [List.map_cons, List.nodup_cons] at hn
    rw [List.foldl_cons]
    rcases List.mem_cons.1 hb with rfl | hb
    · rw [foldl_set_other key upd l _ _ hn.1, get_set_self hlt]
    · have hne : key a ≠ key b := fun e => hn.1 (e ▸ List.mem_map_of_mem hb)
      rw [foldl_set_self l _ hn.2 b hb (by rwa [size_set]), get_set_ne hne]

theorem CL_foldl_set (h : ∀ a n, (upd a n).ideal = n.ideal ∧ (upd a n).width = n.width ∧ (upd a n).data = n.data ∧
    (upd a n).child = n.child ∧ (upd a n).parent = n.parent) (l : List α) (s : Store) :
    CL s (l.foldl (fun s a => set s (key a) (upd a (get s (key a)))) s) :=
  ⟨foldl_set_size key upd l s, foldl_set_field key upd N.ideal (fun a n => (h a n).1) l s,
    foldl_set_field key upd N.width (fun a n => (h a n).2.1) l s,
    foldl_set_field key upd N.data (fun a n => (h a n).2.2.1) l s,
    foldl_set_field key upd N.child (fun a n => (h a n).2.2.2.1) l s,
    foldl_set_field key upd N.parent (fun a n => (h a n).2.2.2.2) l s⟩

end foldlSet

theorem CL_setLayerIndex (j : Nat) (l : List Nat) (s : Store) :
    CL s (l.foldl (fun s i => set s i { get s i with layerIndex := j }) s) :=
  CL_foldl_set (fun i => i) (fun _ n => { n with layerIndex := j }) (fun _ _ => ⟨rfl, rfl, rfl, rfl, rfl⟩) l s

/-- the item the stateful code hands to the solver for node `i` -/
def itemT (s : Store) (i : Nat) : LItem :=
  { target := (match (get s i).parent with
      | some p => (get s p).cur
      | none => (get s i).ideal),
    width := (get s i).width, stub := isStub s i }

theorem removeOverlapT_eq (o : ROpts) (s : Store) (layer : List Nat) :
    removeOverlapT o s layer =
      (((((removeOverlap o (layer.map (itemT s))).order.map (fun k => layer.getD k 0)).zip
          (removeOverlap o (layer.map (itemT s))).pos).foldl
          (fun s (p : Nat × Int) => set s p.1 { get s p.1 with cur := (p.2 : Rat) }) s),
        (removeOverlap o (layer.map (itemT s))).order.map (fun k => layer.getD k 0)) := by
  unfold removeOverlapT
  split
  · next h =>
    rw [List.isEmpty_iff] at h
    subst h
    simp [removeOverlap, sortItems]
  · rfl

theorem itemT_congr {s s' : Store} (h : CL s s') (hcur : ∀ i, (get s' i).cur = (get s i).cur) (i : Nat) :
    itemT s' i = itemT s i := by
  unfold itemT isStub
  rw [h.parent i, h.ideal i, h.width i, h.child i]
  cases (get s i).parent with
  | none => rfl
  | some p => simp only [hcur p]

theorem removeOverlapT_spec (o : FOpts) (labels : List Label) (prev : Option (List Placed)) (s1 : Store)
    (g : List (Nat × Ref)) (hn : (g.map Prod.fst).Nodup) (hlt : ∀ x ∈ g, x.1 < s1.size)
    (hitems : ∀ x ∈ g, itemT s1 x.1 = layerItem o labels prev x.2) :
    ∃ Z : List ((Nat × Ref) × Int),
      (Z.map (fun z => z.1)).Perm g ∧
      (removeOverlapT o.toR s1 (g.map Prod.fst)).2 = Z.map (fun z => z.1.1) ∧
      placeLayer o labels prev (g.map Prod.snd) = Z.map (fun z => ⟨z.1.2, z.2⟩) ∧
      (∀ i, i ∉ g.map Prod.fst → get (removeOverlapT o.toR s1 (g.map Prod.fst)).1 i = get s1 i) ∧
      (∀ z ∈ Z, (get (removeOverlapT o.toR s1 (g.map Prod.fst)).1 z.1.1).cur = (z.2 : Rat)) := by
  have hitems1 : (g.map Prod.fst).map (itemT s1) = (g.map Prod.snd).map (layerItem o labels prev) := by
    rw [List.map_map, List.map_map]
    exact List.map_congr_left hitems
  rw [removeOverlapT_eq, hitems1]
  unfold placeLayer
  generalize hout : removeOverlap o.toR ((g.map Prod.snd).map (layerItem o labels prev)) = out
  have hperm : out.order.Perm (List.range g.length) := by
    have := removeOverlap_order_perm o.toR ((g.map Prod.snd).map (layerItem o labels prev))
    rwa [hout, List.length_map, List.length_map] at this
  have hpos : out.pos.length = g.length := by
    have := removeOverlap_pos_length o.toR ((g.map Prod.snd).map (layerItem o labels prev))
    rwa [hout, List.length_map, List.length_map] at this
  -- the ghost items in the reported order: both sides index their own projection of `g` by `out.order`
  have hfst : out.order.map (fun k => (g.map Prod.fst).getD k 0)
      = (out.order.map (fun k => g.getD k (0, Ref.label 0))).map Prod.fst := by
    rw [List.map_map]
    exact List.map_congr_left (fun k _ => getD_map Prod.fst g k (0, Ref.label 0))
  have hsnd : List.zipWith (fun idx p => ({ ref := (g.map Prod.snd).getD idx (Ref.label 0), pos := p } : Placed))
        out.order out.pos
      = List.zipWith (fun (x : Nat × Ref) p => ({ ref := x.2, pos := p } : Placed))
        (out.order.map (fun k => g.getD k (0, Ref.label 0))) out.pos := by
    rw [List.zipWith_map_left]
    exact zipWith_congr_of_mem _ _ _ _ (fun k _ p => by rw [← getD_map Prod.snd g k (0, Ref.label 0)])
  have hg'perm : (out.order.map (fun k => g.getD k (0, Ref.label 0))).Perm g := by
    have h1 := hperm.map (fun k => g.getD k (0, Ref.label 0))
    rwa [range_map_getD] at h1
  rw [hfst, hsnd]
  generalize out.order.map (fun k => g.getD k (0, Ref.label 0)) = g' at hg'perm ⊢
  have hZ1 : (g'.zip out.pos).map (fun z => z.1) = g' := List.map_fst_zip (by rw [hg'perm.length_eq, hpos])
  have hZ11 : (g'.zip out.pos).map (fun z => z.1.1) = g'.map Prod.fst := by
    conv_rhs => rw [← hZ1, List.map_map]
    rfl
  have hfold : ((g'.map Prod.fst).zip out.pos).foldl
        (fun s (p : Nat × Int) => set s p.1 { get s p.1 with cur := (p.2 : Rat) }) s1
      = (g'.zip out.pos).foldl
        (fun s (z : (Nat × Ref) × Int) => set s z.1.1 { get s z.1.1 with cur := (z.2 : Rat) }) s1 := by
    rw [List.zip_map_left, List.foldl_map]
    rfl
  rw [hfold]
  refine ⟨g'.zip out.pos, by rw [hZ1]; exact hg'perm, hZ11.symm, ?_, fun i hi => ?_, fun z hz => ?_⟩
  · rw [List.zip_eq_zipWith, List.map_zipWith]
  · exact foldl_set_other (fun z : (Nat × Ref) × Int => z.1.1) (fun z n => { n with cur := (z.2 : Rat) }) _ s1 i
      (by rw [hZ11]; exact fun h => hi ((hg'perm.map Prod.fst).subset h))
  · have hz1 : z.1 ∈ g := hg'perm.subset (by rw [← hZ1]; exact List.mem_map_of_mem hz)
    rw [foldl_set_self (fun z : (Nat × Ref) × Int => z.1.1) (fun z n => { n with cur := (z.2 : Rat) }) _ s1
      (by rw [hZ11]; exact (hg'perm.map Prod.fst).nodup_iff.2 hn) z hz (hlt _ hz1)]

theorem removeOverlapT_CL (o : ROpts) (s : Store) (layer : List Nat) : CL s (removeOverlapT o s layer).1 := by
  rw [removeOverlapT_eq]
  exact CL_foldl_set Prod.fst (fun (p : Nat × Int) n => { n with cur := (p.2 : Rat) }) (fun _ _ => ⟨rfl, rfl, rfl, rfl, rfl⟩) _ s

theorem removeOverlapT_layerIndex (o : ROpts) (s : Store) (layer : List Nat) (i : Nat) :
    (get (removeOverlapT o s layer).1 i).layerIndex = (get s i).layerIndex := by
  rw [removeOverlapT_eq]
  exact foldl_set_field Prod.fst (fun (p : Nat × Int) n => { n with cur := (p.2 : Rat) }) N.layerIndex (fun _ _ => rfl) _ s i


/-! ## the per-layer loop of `Force.compute` -/

def placeT (o : FOpts) : Nat → Store → List (List Nat) → Store × List (List Nat)
  | _, s, [] => (s, [])
  | j, s, l :: ls =>
    ((placeT o (j + 1)
        (removeOverlapT o.toR (l.foldl (fun s i => set s i { get s i with layerIndex := j }) s) l).1 ls).1,
      (removeOverlapT o.toR (l.foldl (fun s i => set s i { get s i with layerIndex := j }) s) l).2 ::
        (placeT o (j + 1)
          (removeOverlapT o.toR (l.foldl (fun s i => set s i { get s i with layerIndex := j }) s) l).1 ls).2)

theorem computeT_fold_eq (o : FOpts) : ∀ (layers : List (List Nat)) (j : Nat) (s : Store) (acc : List (List Nat)),
    (layers.zipIdx j).foldl (fun (acc : Store × List (List Nat)) (p : List Nat × Nat) =>
      let s := p.1.foldl (fun s i => set s i { get s i with layerIndex := p.2 }) acc.1
      let ro := removeOverlapT o.toR s p.1
      (ro.1, acc.2 ++ [ro.2])) (s, acc) = ((placeT o j s layers).1, acc ++ (placeT o j s layers).2) := by
  intro layers
  induction layers with
  | nil => intro j s acc; simp [placeT]
  | cons l ls ih =>
    intro j s acc
    rw [List.zipIdx_cons, List.foldl_cons]
    simp only
    rw [ih, placeT]
    simp

theorem placeT_CL (o : FOpts) : ∀ (layers : List (List Nat)) (j : Nat) (s : Store), CL s (placeT o j s layers).1 := by
  intro layers
  induction layers with
  | nil => intro j s; exact CL.refl s
  | cons l ls ih =>
    intro j s
    rw [placeT]
    exact ((CL_setLayerIndex j l s).trans (removeOverlapT_CL _ _ _)).trans (ih _ _)

def obsT (s : Store) (lvl : Nat) (i : Nat) : ObsT :=
  { ideal := (get s i).ideal, width := (get s i).width, stub := isStub s i, level := lvl,
    layerIndex := (get s i).layerIndex, pos := (get s i).cur, data := (get s i).data }

def obsP (o : FOpts) (labels : List Label) (datas : List Nat) (lvl : Nat) (pl : Placed) : ObsT :=
  { ideal := idealOf labels pl.ref.id, width := if pl.ref.isStub then o.stubWidth else widthOf labels pl.ref.id,
    stub := pl.ref.isStub, level := lvl, layerIndex := lvl, pos := (pl.pos : Rat), data := datas.getD pl.ref.id 0 }

theorem observe_eq (s : Store) (layers : List (List Nat)) :
    observe s layers = (layers.zipIdx 0).map (fun p => p.1.map (obsT s p.2)) := rfl

theorem observePure_eq (o : FOpts) (labels : List Label) (datas : List Nat) (layers : List (List Placed)) :
    observePure o labels datas layers = (layers.zipIdx 0).map (fun p => p.1.map (obsP o labels datas p.2)) := rfl

/-- the state between two layers: what the distributor established, plus: the targets of the next layer's items, read through
their `parent` links, are what the pure model finds in the layer just placed -/
structure PInv (o : FOpts) (labels : List Label) (datas : List Nat) (s : Store) (prev : Option (List Placed))
    (G : GL) : Prop where
  nodup : (G.flatten.map Prod.fst).Nodup
  rep : ∀ x ∈ G.flatten, Rep labels datas o.stubWidth s x
  idn : ∀ l ∈ G, (l.map (fun x => x.2.id)).Nodup
  link : ∀ m, ∀ x ∈ G.getD (m + 1) [], ∃ y ∈ G.getD m [], (get s x.1).parent = some y.1 ∧ y.2.id = x.2.id
  head : ∀ x ∈ G.getD 0 [], (itemT s x.1).target = (layerItem o labels prev x.2).target

theorem litem_ext {a b : LItem} (h1 : a.target = b.target) (h2 : a.width = b.width) (h3 : a.stub = b.stub) : a = b := by
  cases a; cases b; simp only at h1 h2 h3; rw [h1, h2, h3]

theorem PInv.items {o : FOpts} {labels : List Label} {datas : List Nat} {s : Store} {prev : Option (List Placed)}
    {g : List (Nat × Ref)} {rest : GL} (h : PInv o labels datas s prev (g :: rest)) :
    ∀ x ∈ g, itemT s x.1 = layerItem o labels prev x.2 := fun x hx =>
  have hr := h.rep x (List.mem_flatten.2 ⟨g, List.mem_cons_self, hx⟩)
  litem_ext (h.head x hx) hr.width hr.stub

theorem placeT_spec (o : FOpts) (labels : List Label) (datas : List Nat) :
    ∀ (G : GL) (j : Nat) (s : Store) (prev : Option (List Placed)), PInv o labels datas s prev G →
    (((placeT o j s (projT G)).2.zipIdx j).map (fun p => p.1.map (obsT (placeT o j s (projT G)).1 p.2)) =
      ((placeLayers o labels prev (projP G)).zipIdx j).map (fun p => p.1.map (obsP o labels datas p.2))) ∧
    (∀ i, i ∉ G.flatten.map Prod.fst → get (placeT o j s (projT G)).1 i = get s i) ∧
    (∀ m, ∀ x ∈ G.getD m [], (get (placeT o j s (projT G)).1 x.1).layerIndex = j + m) := by
  intro G
  induction G with
  | nil =>
    intro j s prev _
    exact ⟨rfl, fun _ _ => rfl, fun m x hx => absurd hx List.not_mem_nil⟩
  | cons g rest ih =>
    intro j s prev h
    have hnd := h.nodup
    rw [List.flatten_cons, List.map_append, List.nodup_append] at hnd
    obtain ⟨hnd1, hnd2, hnd3⟩ := hnd
    have hgf : ∀ x ∈ g, x ∈ (g :: rest).flatten := fun x hx => List.mem_flatten.2 ⟨g, List.mem_cons_self, hx⟩
    have hrf : ∀ x ∈ rest.flatten, x ∈ (g :: rest).flatten := fun x hx => List.mem_append_right g hx
    have hproj : projT (g :: rest) = g.map Prod.fst :: projT rest := rfl
    have hprojP : projP (g :: rest) = g.map Prod.snd :: projP rest := rfl
    rw [hproj, hprojP, placeT, placeLayers]
    simp only
    have l1 := CL_setLayerIndex j (g.map Prod.fst) s
    have l2 := foldl_set_field (fun i => i) (fun _ n => { n with layerIndex := j }) N.cur (fun _ _ => rfl) (g.map Prod.fst) s
    have l3 := foldl_set_other (fun i => i) (fun _ n => { n with layerIndex := j }) (g.map Prod.fst) s
    have l4 := foldl_set_self (fun i => i) (fun _ n => { n with layerIndex := j }) (g.map Prod.fst) s
      (by rwa [List.map_id'])
    simp only [List.map_id'] at l3
    generalize (g.map Prod.fst).foldl (fun s i => set s i { get s i with layerIndex := j }) s = s1 at *
    obtain ⟨Z, z1, z2, z3, z5, z6⟩ := removeOverlapT_spec o labels prev s1 g hnd1
      (fun x hx => l1.size ▸ (h.rep x (hgf x hx)).lt) (fun x hx => by rw [itemT_congr l1 l2, h.items x hx])
    have z4 := l1.trans (removeOverlapT_CL o.toR s1 (g.map Prod.fst))
    have z7 := removeOverlapT_layerIndex o.toR s1 (g.map Prod.fst)
    generalize hro : removeOverlapT o.toR s1 (g.map Prod.fst) = ro at *
    generalize hpl : placeLayer o labels prev (g.map Prod.snd) = placed at *
    have hZg : ∀ z ∈ Z, z.1 ∈ g := fun z hz => z1.subset (List.mem_map_of_mem (f := fun z => z.1) hz)
    have hZrest : ∀ z ∈ Z, z.1.1 ∉ rest.flatten.map Prod.fst := fun z hz hin =>
      hnd3 _ (List.mem_map_of_mem (hZg z hz)) _ hin rfl
    have hli : ∀ z ∈ Z, (get ro.1 z.1.1).layerIndex = j := fun z hz => by
      rw [z7, l4 _ (List.mem_map_of_mem (hZg z hz)) (h.rep _ (hgf _ (hZg z hz))).lt]
    have hinv : PInv o labels datas ro.1 (some placed) rest := by
      refine ⟨hnd2, fun x hx => (h.rep x (hrf x hx)).congr (Nat.le_of_eq z4.size.symm) (z4.ideal _) (z4.width _)
        (z4.data _) (z4.child _), fun l hl => h.idn l (List.mem_cons_of_mem g hl), ?_, ?_⟩
      · intro m x hx
        obtain ⟨y, hy, hy1, hy2⟩ := h.link (m + 1) x hx
        exact ⟨y, hy, by rw [z4.parent]; exact hy1, hy2⟩
      · -- the parent of an item of the next layer was just placed: its `cur` is what the pure lookup by label id finds
        intro x hx
        obtain ⟨y, hyg, hy1, hy2⟩ := h.link 0 x hx
        change y ∈ g at hyg
        obtain ⟨z, hz, hzy⟩ := List.mem_map.1 (z1.symm.subset hyg)
        have htT : (itemT ro.1 x.1).target = (z.2 : Rat) := by
          unfold itemT
          simp only
          rw [z4.parent, hy1]
          simp only
          rw [← hzy]; exact z6 z hz
        rw [htT]
        have hidn : (Z.map (fun z => z.1.2.id)).Nodup := by
          have := (z1.map (fun x : Nat × Ref => x.2.id)).nodup_iff.2 (h.idn g List.mem_cons_self)
          rwa [List.map_map] at this
        have hfind : placed.find? (fun p => p.ref.id == x.2.id) = some ⟨z.1.2, z.2⟩ := by
          rw [z3]
          refine find?_unique _ _ _ (List.mem_map.2 ⟨z, hz, rfl⟩) ?_ ?_
          · simp only [beq_iff_eq]; rw [hzy]; exact hy2
          · intro b hb hpb
            obtain ⟨z', hz', rfl⟩ := List.mem_map.1 hb
            simp only [beq_iff_eq] at hpb
            rw [List.inj_on_of_nodup_map hidn hz' hz (by rw [hpb, hzy, hy2])]
        unfold layerItem
        simp only [hfind, Option.map_some, Option.getD_some]
    obtain ⟨a, c, d⟩ := ih (j + 1) ro.1 (some placed) hinv
    refine ⟨?_, ?_, ?_⟩
    · rw [List.zipIdx_cons, List.zipIdx_cons, List.map_cons, List.map_cons, a]
      congr 1
      simp only
      rw [z2, z3, List.map_map, List.map_map]
      apply List.map_congr_left
      intro z hz
      have hr := h.rep _ (hgf _ (hZg z hz))
      simp only [Function.comp, obsT, obsP, isStub]
      rw [c _ (hZrest z hz), z6 z hz, hli z hz, z4.ideal, z4.width, z4.child, z4.data,
        hr.ideal, hr.width, hr.stub, hr.data]
    · intro i hi
      rw [List.flatten_cons, List.map_append, List.mem_append, not_or] at hi
      rw [c i hi.2, z5 i hi.1, l3 i hi.1]
    · intro m x hx
      cases m with
      | zero =>
        obtain ⟨z, hz, rfl⟩ := List.mem_map.1 (z1.symm.subset (show x ∈ g from hx))
        rw [c _ (hZrest z hz), hli z hz]
        rfl
      | succ m =>
        rw [d m x hx]
        omega


/-! ## `computeT` -/

theorem computeT_eq (e : Engine) (s : Store) :
    computeT e s =
      ({ e with
          nodes := if (distributeT e.opts.toD (e.nodes.foldl removeStub s) e.nodes).2.2 then
              (placeT e.opts 0 (distributeT e.opts.toD (e.nodes.foldl removeStub s) e.nodes).1
                (distributeT e.opts.toD (e.nodes.foldl removeStub s) e.nodes).2.1).2.headD e.nodes
            else e.nodes,
          layers := some (placeT e.opts 0 (distributeT e.opts.toD (e.nodes.foldl removeStub s) e.nodes).1
                (distributeT e.opts.toD (e.nodes.foldl removeStub s) e.nodes).2.1).2 },
        (placeT e.opts 0 (distributeT e.opts.toD (e.nodes.foldl removeStub s) e.nodes).1
                (distributeT e.opts.toD (e.nodes.foldl removeStub s) e.nodes).2.1).1) := by
  unfold computeT
  simp only
  rw [computeT_fold_eq, List.nil_append]

theorem computeT_frame (e : Engine) (s : Store) : Frame s (computeT e s).2 := by
  rw [computeT_eq]
  exact ((removeStub_fold e.nodes s).1.frame.trans (distributeT_frame _ _ _)).trans (placeT_CL _ _ _ _).frame

theorem distributeT_flag (o : DOpts) (s : Store) (nodes : List Nat) (h : o.algorithm ≠ .none) :
    (distributeT o s nodes).2.2 = false := by
  by_cases hne : nodes = []
  · subst hne; rw [distributeT_nil]
  by_cases hnl : estimateLayers o ((sortIds (labelsOf s nodes)).map (widthOf (labelsOf s nodes))) ≤ 1
  · rw [distributeT_single o s nodes hne h hnl]
  rcases alg_cases h with halg | halg
  · rw [distributeT_simple o s nodes hne halg hnl]
  · rw [distributeT_overlap o s nodes hne halg hnl]

theorem removeOverlapT_perm (o : ROpts) (s : Store) (layer : List Nat) : (removeOverlapT o s layer).2.Perm layer := by
  rw [removeOverlapT_eq]
  simp only
  have h := (removeOverlap_order_perm o (layer.map (itemT s))).map (fun k => layer.getD k 0)
  rw [List.length_map, range_map_getD] at h
  exact h

theorem computeT_nodes (e : Engine) (s : Store) :
    (computeT e s).1.nodes.Perm e.nodes ∧ (e.opts.algorithm ≠ .none → (computeT e s).1.nodes = e.nodes) := by
  rw [computeT_eq]
  simp only
  by_cases h : e.opts.algorithm = .none
  · refine ⟨?_, fun h' => absurd h h'⟩
    by_cases hne : e.nodes = []
    · rw [hne, distributeT_nil]; simp
    · rw [distributeT_none _ _ _ hne (show e.opts.toD.algorithm = .none from h)]
      simp only [if_true, placeT, List.headD_cons]
      exact removeOverlapT_perm _ _ _
  · have := distributeT_flag e.opts.toD (e.nodes.foldl removeStub s) e.nodes h
    rw [this]
    simp

structure GoodN (s : Store) (nodes : List Nat) : Prop where
  lt : ∀ i ∈ nodes, i < s.size
  nodup : nodes.Nodup
  label : ∀ i ∈ nodes, (get s i).child = none

theorem GoodN.nil (s : Store) : GoodN s [] := ⟨by simp, List.nodup_nil, by simp⟩

theorem GoodN.frame {s s' : Store} {L : List Nat} (h : GoodN s L) (hf : Frame s s') : GoodN s' L :=
  ⟨fun i hi => Nat.lt_of_lt_of_le (h.lt i hi) hf.size, h.nodup, fun i hi => hf.child i (h.lt i hi) (h.label i hi)⟩

theorem GoodN.perm {s : Store} {L L' : List Nat} (h : GoodN s L) (hp : L'.Perm L) : GoodN s L' :=
  ⟨fun i hi => h.lt i (hp.subset hi), hp.nodup_iff.2 h.nodup, fun i hi => h.label i (hp.subset hi)⟩

theorem GoodN.clean {s : Store} {nodes : List Nat} (h : GoodN s nodes) :
    Clean (nodes.foldl removeStub s) nodes ∧ labelsOf (nodes.foldl removeStub s) nodes = labelsOf s nodes ∧
    datasOf (nodes.foldl removeStub s) nodes = nodes.map (fun i => (get s i).data) := by
  obtain ⟨h1, h2⟩ := removeStub_fold nodes s
  refine ⟨⟨fun i hi => by rw [h1.size]; exact h.lt i hi, h.nodup, ?_, h2⟩, ?_, ?_⟩
  · intro i hi
    rcases h1.child i with hc | hc
    · exact hc
    · rw [hc]; exact h.label i hi
  · unfold labelsOf
    apply List.map_congr_left
    intro i _
    rw [h1.ideal, h1.width]
  · unfold datasOf
    apply List.map_congr_left
    intro i _
    rw [h1.data]

/-- after the distributor every item above the axis layer is linked to the stand-in below it: the pure layers have a stub of its
label there, that stub's `child` stands for the same label one layer up, hence is the item, and so the item has a parent link -/
theorem PInv_of_SInv {o : FOpts} {labels : List Label} {datas : List Nat} {nodes : List Nat} {n0 : Nat} {s : Store} {G : GL}
    (h : SInv labels datas o.stubWidth nodes n0 s G) (hid : ∀ l ∈ projP G, (l.map Ref.id).Nodup)
    (hbelow : ∀ m, ∀ r ∈ (projP G).getD (m + 1) [], Ref.stub r.id m ∈ (projP G).getD m []) :
    PInv o labels datas s none G := by
  have hidn : ∀ l ∈ G, (l.map (fun x => x.2.id)).Nodup := fun l hl => by
    have := hid (l.map Prod.snd) (List.mem_map_of_mem hl)
    rwa [List.map_map] at this
  refine ⟨h.nodup, h.rep, hidn, ?_, ?_⟩
  · intro m x hx
    have hb := hbelow m x.2 (by rw [projP_getD]; exact List.mem_map_of_mem hx)
    rw [projP_getD] at hb
    obtain ⟨y, hy, hy2⟩ := List.mem_map.1 hb
    have hys := (h.rep y (mem_flatten_of_mem_getD hy)).stub
    rw [hy2] at hys
    obtain ⟨c, hch⟩ := Option.isSome_iff_exists.1 hys
    obtain ⟨x', hx', rfl, hx2, hpar⟩ := h.cd m y hy c hch
    obtain rfl : x' = x := List.inj_on_of_nodup_map
      (hidn _ (getD_mem (lt_length_of_mem_getD hx))) hx' hx (by rw [hx2, hy2]; rfl)
    obtain ⟨p, hp⟩ := Option.ne_none_iff_exists'.1 hpar
    obtain ⟨m', y', e, hy', hy1', hy2', _⟩ := h.par (m + 1) x' hx p hp
    obtain rfl : m' = m := by omega
    exact ⟨y', hy', by rw [hy1', hp], hy2'⟩
  · intro x hx
    have hpar : (get s x.1).parent = none := Option.eq_none_iff_forall_ne_some.2 fun p hp => by
      obtain ⟨m', y, e, _⟩ := h.par 0 x hx p hp
      omega
    unfold itemT layerItem
    simp only [hpar]
    exact (h.rep x (mem_flatten_of_mem_getD hx)).ideal

theorem computeT_observe (e : Engine) (s : Store) (hg : GoodN s e.nodes) :
    observe (computeT e s).2 ((computeT e s).1.layers.getD []) =
      observePure e.opts (labelsOf s e.nodes) (e.nodes.map (fun i => (get s i).data))
        (Layout.compute e.opts (labelsOf s e.nodes)) := by
  obtain ⟨hc, hlab, hdat⟩ := hg.clean
  obtain ⟨G, g1, g2, g3⟩ := distributeT_spec e.opts.toD (e.nodes.foldl removeStub s) e.nodes hc
  obtain ⟨g4, g5⟩ := distribute_shape e.opts.toD (labelsOf (e.nodes.foldl removeStub s) e.nodes)
  rw [g2] at g4 g5
  rw [hlab] at g2 g3
  rw [hdat] at g3
  have hinv := PInv_of_SInv (o := e.opts) g3 g4 g5
  have := (placeT_spec e.opts (labelsOf s e.nodes) (e.nodes.map (fun i => (get s i).data)) G 0 _ none hinv).1
  rw [computeT_eq]
  simp only [Option.getD_some]
  rw [observe_eq, observePure_eq, g1, this]
  unfold Layout.compute
  rw [g2]

theorem computeT_goodN (e : Engine) (s : Store) (h : GoodN s e.nodes) :
    GoodN (computeT e s).2 (computeT e s).1.nodes :=
  (h.frame (computeT_frame e s)).perm (computeT_nodes e s).1

/-! ## histories -/

theorem mkNode_frame (s : Store) (ideal width : Rat) (d : Nat) : Frame s (mkNode s ideal width d).1 := by
  unfold mkNode
  refine ⟨by simp, ?_, ?_, ?_, ?_⟩ <;> intro i hi
  · rw [get_push_lt hi]
  · rw [get_push_lt hi]
  · rw [get_push_lt hi]
  · rw [get_push_lt hi]; exact id

theorem mkNode_goodN {s : Store} {L : List Nat} (h : GoodN s L) (ideal width : Rat) :
    GoodN (mkNode s ideal width s.size).1 (L ++ [s.size]) ∧ (get (mkNode s ideal width s.size).1 s.size).data = s.size := by
  have hnew : get (mkNode s ideal width s.size).1 s.size = _ := get_push_size s _
  have h' := h.frame (mkNode_frame s ideal width s.size)
  refine ⟨⟨?_, ?_, ?_⟩, by rw [hnew]⟩
  · intro i hi
    rcases List.mem_append.1 hi with hi | hi
    · exact h'.lt i hi
    · rw [List.mem_singleton.1 hi]
      simp [mkNode]
  · rw [List.nodup_append]
    refine ⟨h.nodup, List.nodup_singleton _, fun a ha b hb => ?_⟩
    rw [List.mem_singleton.1 hb]
    exact Nat.ne_of_lt (h.lt a ha)
  · intro i hi
    rcases List.mem_append.1 hi with hi | hi
    · exact h'.label i hi
    · rw [List.mem_singleton.1 hi, hnew]

/-- `[Node(...), …]` as `World.step` and `MWorld.step` run it: every new node carries its own id as payload -/
abbrev freshFold (ls : List Label) (acc : Store × List Nat) : Store × List Nat :=
  ls.foldl (fun (acc : Store × List Nat) l =>
    ((mkNode acc.1 l.ideal l.width acc.1.size).1, acc.2 ++ [(mkNode acc.1 l.ideal l.width acc.1.size).2])) acc

theorem freshNodes_fold : ∀ (ls : List Label) (acc : Store × List Nat),
    GoodN acc.1 acc.2 → (∀ i ∈ acc.2, (get acc.1 i).data = i) →
    GoodN (freshFold ls acc).1 (freshFold ls acc).2 ∧ Frame acc.1 (freshFold ls acc).1 ∧
    ∀ i ∈ (freshFold ls acc).2, (get (freshFold ls acc).1 i).data = i := by
  intro ls
  induction ls with
  | nil => intro acc h hd; exact ⟨h, Frame.refl _, hd⟩
  | cons l rest ih =>
    intro acc h hd
    have hfr := mkNode_frame acc.1 l.ideal l.width acc.1.size
    obtain ⟨hstep, hnew⟩ := mkNode_goodN h l.ideal l.width
    obtain ⟨a, b, c⟩ := ih (_, _) hstep (fun i hi => by
      rcases List.mem_append.1 hi with hi | hi
      · exact (hfr.data i (h.lt i hi)).trans (hd i hi)
      · rw [List.mem_singleton.1 hi]; exact hnew)
    exact ⟨a, hfr.trans b, c⟩

/-- what every reachable world satisfies: the engine's nodes and the last batch of node objects are good, the engine's nodes
are among the last batch, and the payload of each of them is its own identity (so distinct labels carry distinct payloads) -/
structure WInv (w : World) : Prop where
  nodes : GoodN w.store w.engine.nodes
  last : GoodN w.store w.last
  sub : ∀ i ∈ w.engine.nodes, i ∈ w.last
  data : ∀ i ∈ w.last, (get w.store i).data = i

theorem WInv.step {w : World} (h : WInv w) (op : Op) : WInv (w.step op) := by
  cases op with
  | newEngine o => exact ⟨GoodN.nil _, h.last, (fun _ hi => nomatch hi), h.data⟩
  | setOptions o => exact ⟨h.nodes, h.last, h.sub, h.data⟩
  | freshNodes ls =>
    simp only [World.step]
    split
    · exact h
    · obtain ⟨a, -, d⟩ := freshNodes_fold ls (w.store, []) (GoodN.nil _) (fun _ hi => nomatch hi)
      exact ⟨a, a, fun i hi => hi, d⟩
  | sameNodes =>
    simp only [World.step]
    split
    · exact h
    · exact ⟨h.last, h.last, fun i hi => hi, h.data⟩
  | compute =>
    have hf := computeT_frame w.engine w.store
    exact ⟨computeT_goodN _ _ h.nodes, h.last.frame hf,
      fun i hi => h.sub i ((computeT_nodes w.engine w.store).1.subset hi),
      fun i hi => (hf.data i (h.last.lt i hi)).trans (h.data i hi)⟩

theorem world_inv (ops : List Op) : WInv (World.run ops) :=
  foldl_invariant WInv World.step (fun _ op h => h.step op) ops World.init
    ⟨GoodN.nil _, GoodN.nil _, (fun _ hi => nomatch hi), (fun _ hi => nomatch hi)⟩

theorem WInv.datas_eq {w : World} (h : WInv w) :
    w.engine.nodes.map (fun i => (get w.store i).data) = w.engine.nodes := by
  conv_rhs => rw [← List.map_id w.engine.nodes]
  exact List.map_congr_left (fun i hi => h.data i (h.sub i hi))

theorem WInv.datas_nodup {w : World} (h : WInv w) :
    (w.engine.nodes.map (fun i => (get w.store i).data)).Nodup := by
  rw [h.datas_eq]; exact h.nodes.nodup

theorem World.run_concat (ops : List Op) (op : Op) : World.run (ops ++ [op]) = (World.run ops).step op := by
  unfold World.run
  rw [List.foldl_append]
  rfl

end Labella.EngineT
