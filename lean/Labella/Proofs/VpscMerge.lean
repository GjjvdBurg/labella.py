import Labella.Proofs.VpscFrame
import Mathlib.Logic.Relation
import Mathlib.Algebra.Order.Field.Rat
import Mathlib.Tactic.Linarith
import Mathlib.Tactic.Ring
/-! # Merging two blocks across a constraint (`Blocks.merge`, `Block.mergeAcross`)

`mergeBlocks st ci` activates the constraint `ci`, moves every variable listed in the smaller block's `vars` into
the other block and removes the emptied block from the block list.  `Inv` is preserved **provided the `vars`
lists are duplicate-free** (`VarsNodup`, defined in `VpscInv.lean`): `mergeAcross` shifts the offset of a variable
once per occurrence in the list, so without that hypothesis `tight` fails for the newly activated constraint (a variable
listed twice is shifted by `2 * dist`).  `VarsNodup` is preserved too (`mergeBlocks_varsNodup`). -/
namespace Labella.Vpsc

/-! ## 1. generic graph lemmas -/

private theorem rtg_add_edge {α : Type} {R R' : α → α → Prop} {x y : α}
    (h : ∀ a b, R' a b ↔ (R a b ∨ (a = x ∧ b = y) ∨ (a = y ∧ b = x))) (u v : α) :
    Relation.ReflTransGen R' u v ↔
      (Relation.ReflTransGen R u v ∨ (Relation.ReflTransGen R u x ∧ Relation.ReflTransGen R y v) ∨
        (Relation.ReflTransGen R u y ∧ Relation.ReflTransGen R x v)) := by
  constructor
  · intro p
    induction p with
    | refl => exact Or.inl Relation.ReflTransGen.refl
    | tail _ hwv ih =>
      rcases (h _ _).1 hwv with hr | ⟨rfl, rfl⟩ | ⟨rfl, rfl⟩
      · rcases ih with a | ⟨a, b⟩ | ⟨a, b⟩
        · exact Or.inl (a.tail hr)
        · exact Or.inr (Or.inl ⟨a, b.tail hr⟩)
        · exact Or.inr (Or.inr ⟨a, b.tail hr⟩)
      · rcases ih with a | ⟨a, _⟩ | ⟨a, _⟩
        · exact Or.inr (Or.inl ⟨a, Relation.ReflTransGen.refl⟩)
        · exact Or.inr (Or.inl ⟨a, Relation.ReflTransGen.refl⟩)
        · exact Or.inl a
      · rcases ih with a | ⟨a, _⟩ | ⟨a, _⟩
        · exact Or.inr (Or.inr ⟨a, Relation.ReflTransGen.refl⟩)
        · exact Or.inl a
        · exact Or.inr (Or.inr ⟨a, Relation.ReflTransGen.refl⟩)
  · have hmono : ∀ a b, Relation.ReflTransGen R a b → Relation.ReflTransGen R' a b :=
      fun a b p => Relation.ReflTransGen.mono (fun a b r => (h a b).2 (Or.inl r)) a b p
    have hxy : R' x y := (h x y).2 (Or.inr (Or.inl ⟨rfl, rfl⟩))
    have hyx : R' y x := (h y x).2 (Or.inr (Or.inr ⟨rfl, rfl⟩))
    rintro (a | ⟨a, b⟩ | ⟨a, b⟩)
    · exact hmono _ _ a
    · exact ((hmono _ _ a).tail hxy).trans (hmono _ _ b)
    · exact ((hmono _ _ a).tail hyx).trans (hmono _ _ b)

/-! ## 2. the effect of `mergeAcross` -/

/-- the loop body of `mergeAcross` -/
def mstep (sb : Nat) (dist : Rat) (st : St) (i : Nat) : St :=
  addVariable (setV st i { getV st i with offset := (getV st i).offset + dist }) sb i

def moved (sb : Nat) (dist : Rat) (v : V) : V := { v with offset := v.offset + dist, block := sb }

theorem mstep_cs (sb : Nat) (d : Rat) (st : St) (i : Nat) : (mstep sb d st i).cs = st.cs := by
  simp only [mstep, addVariable_cs, setV_cs]
theorem mstep_list (sb : Nat) (d : Rat) (st : St) (i : Nat) : (mstep sb d st i).list = st.list := by
  simp only [mstep, addVariable_list, setV_list]
theorem mstep_inactive (sb : Nat) (d : Rat) (st : St) (i : Nat) : (mstep sb d st i).inactive = st.inactive := by
  simp only [mstep, addVariable_inactive, setV_inactive]
theorem mstep_err (sb : Nat) (d : Rat) (st : St) (i : Nat) : (mstep sb d st i).err = st.err := rfl
theorem mstep_vs_size (sb : Nat) (d : Rat) (st : St) (i : Nat) : (mstep sb d st i).vs.size = st.vs.size := by
  simp only [mstep, addVariable_vs_size, setV_vs_size]
theorem mstep_bs_size (sb : Nat) (d : Rat) (st : St) (i : Nat) : (mstep sb d st i).bs.size = st.bs.size := by
  simp only [mstep, addVariable_bs_size, setV_bs]

theorem getV_mstep (sb : Nat) (d : Rat) (st : St) (i u : Nat) :
    getV (mstep sb d st i) u = if u = i ∧ i < st.vs.size then moved sb d (getV st i) else getV st u := by
  unfold mstep
  rw [getV_addVariable, setV_vs_size, getV_setV, getV_setV]
  split
  · next h => rw [if_pos ⟨rfl, h.2⟩]; rfl
  · rfl

theorem vars_mstep (sb : Nat) (d : Rat) (st : St) (i k : Nat) :
    (getB (mstep sb d st i) k).vars =
      if k = sb ∧ sb < st.bs.size then (getB st sb).vars ++ [i] else (getB st k).vars := by
  unfold mstep
  split
  · next h => rw [h.1, getB_addVariable_vars _ _ _ (by rw [setV_bs]; exact h.2)]; rfl
  · next h =>
    by_cases hk : k = sb
    · have hsb : ¬ sb < st.bs.size := fun hlt => h ⟨hk, hlt⟩
      simp only [addVariable, getB_setB, getB_setV, setV_bs, hsb, and_false, if_false]
    · rw [getB_addVariable_ne _ _ _ _ hk]; rfl

theorem foldl_mstep_fields (sb : Nat) (d : Rat) (l : List Nat) (st : St) :
    (l.foldl (mstep sb d) st).cs = st.cs ∧ (l.foldl (mstep sb d) st).list = st.list ∧
    (l.foldl (mstep sb d) st).inactive = st.inactive ∧ (l.foldl (mstep sb d) st).err = st.err ∧
    (l.foldl (mstep sb d) st).vs.size = st.vs.size ∧ (l.foldl (mstep sb d) st).bs.size = st.bs.size := by
  induction l generalizing st with
  | nil => simp
  | cons i t ih =>
    simp only [List.foldl_cons]
    obtain ⟨h1, h2, h3, h4, h5, h6⟩ := ih (mstep sb d st i)
    exact ⟨h1.trans (mstep_cs ..), h2.trans (mstep_list ..), h3.trans (mstep_inactive ..), h4.trans (mstep_err ..),
      h5.trans (mstep_vs_size ..), h6.trans (mstep_bs_size ..)⟩

theorem getV_foldl_mstep (sb : Nat) (d : Rat) (l : List Nat) (hl : l.Nodup) (st : St) (u : Nat) :
    getV (l.foldl (mstep sb d) st) u =
      if u ∈ l ∧ u < st.vs.size then moved sb d (getV st u) else getV st u := by
  induction l generalizing st with
  | nil => simp
  | cons i t ih =>
    simp only [List.foldl_cons]
    obtain ⟨hit, ht⟩ := List.nodup_cons.1 hl
    rw [ih ht, getV_mstep, mstep_vs_size]
    by_cases hu : u = i
    · subst hu
      by_cases hs : u < st.vs.size
      · simp [hit, hs]
      · simp [hs]
    · have : ¬ (u = i ∧ i < st.vs.size) := fun h => hu h.1
      simp [hu]

theorem vars_foldl_mstep (sb : Nat) (d : Rat) (l : List Nat) (st : St) (k : Nat) :
    (getB (l.foldl (mstep sb d) st) k).vars =
      if k = sb ∧ sb < st.bs.size then (getB st sb).vars ++ l else (getB st k).vars := by
  induction l generalizing st with
  | nil =>
    by_cases h : k = sb ∧ sb < st.bs.size
    · simp [h.1]
    · simp [h]
  | cons i t ih =>
    simp only [List.foldl_cons]
    rw [ih, mstep_bs_size]
    simp only [vars_mstep]
    by_cases h : k = sb ∧ sb < st.bs.size
    · simp [h]
    · simp [h]

theorem mergeAcross_eq (st : St) (sb b ci : Nat) (dist : Rat) :
    mergeAcross st sb b ci dist =
      (let st1 := setC st ci { getC st ci with active := true }
       let st2 := (getB st b).vars.foldl (mstep sb dist) st1
       setB st2 sb { getB st2 sb with posn := getPosn (getB st2 sb) }) := rfl

/-- the net effect of `mergeAcross st sb b ci d` -/
structure MergeEff (st st' : St) (sb b ci : Nat) (d : Rat) : Prop where
  vsize : st'.vs.size = st.vs.size
  csize : st'.cs.size = st.cs.size
  bsize : st'.bs.size = st.bs.size
  inactive : st'.inactive = st.inactive
  err : st'.err = st.err
  gv : ∀ u, getV st' u =
    if u < st.vs.size ∧ (getV st u).block = b then moved sb d (getV st u) else getV st u
  gc : ∀ j, getC st' j = if j = ci then { getC st ci with active := true } else getC st j
  varsSelf : (getB st' sb).vars = (getB st sb).vars ++ (getB st b).vars
  varsOther : ∀ k, k ≠ sb → (getB st' k).vars = (getB st k).vars

theorem mergeAcross_eff (st : St) (sb b ci : Nat) (d : Rat) (hinv : Inv st) (hnd : VarsNodup st)
    (hci : ci < st.cs.size) (hself : sb < st.bs.size) (y : Nat) (hy : y < st.vs.size)
    (hyb : (getV st y).block = b) : MergeEff st (mergeAcross st sb b ci d) sb b ci d := by
  rw [mergeAcross_eq]
  have hl : (getB (setC st ci { getC st ci with active := true }) b).vars.Nodup := by
    rw [getB_setC, ← hyb]; exact hnd y hy
  obtain ⟨f1, f2, f3, f4, f5, f6⟩ := foldl_mstep_fields sb d (getB st b).vars
    (setC st ci { getC st ci with active := true })
  refine ⟨?_, ?_, ?_, ?_, ?_, ?_, ?_, ?_, ?_⟩
  · simp only [setB_vs]; rw [f5]; simp
  · simp only [setB_cs]; rw [f1]; simp
  · simp only [setB_bs_size]; rw [f6]; simp
  · simp only [setB_inactive]; rw [f3]; simp
  · simp only [setB_err]; rw [f4]; simp
  · intro u
    simp only [getV_setB]
    rw [getV_foldl_mstep sb d _ (by rw [getB_setC] at hl; exact hl)]
    simp only [getV_setC, setC_vs]
    have hm := hinv.members y hy u
    rw [hyb] at hm
    by_cases hu : u < st.vs.size ∧ (getV st u).block = b
    · simp [hm.2 hu, hu.1, hu.2]
    · have : ¬ u ∈ (getB st b).vars := fun h => hu (hm.1 h)
      simp [this, hu]
  · intro j
    simp only [getC_setB]
    have : ∀ s : St, getC s j = s.cs.getD j default := fun _ => rfl
    rw [this, f1, ← this, getC_setC]
    simp [hci]
  · simp only [getB_setB]
    rw [f6]
    simp only [setC_bs, hself, and_self, if_true]
    rw [vars_foldl_mstep]
    simp [hself]
  · intro k hk
    simp only [getB_setB]
    rw [if_neg (fun h => hk h.1), vars_foldl_mstep, if_neg (fun h => hk h.1)]
    simp

/-! ## 3. the invariant after `mergeAcross` -/

/-- `mergeAcross` in the situation `Blocks.merge` calls it: `x` is the end of `ci` inside the surviving block
`sb`, `y` its end inside the block `b` that is moved, `d` makes `ci` tight -/
structure MergeCtx (st st' : St) (sb b ci : Nat) (d : Rat) (x y : Nat) : Prop
    extends MergeEff st st' sb b ci d where
  inv : Inv st
  nd : VarsNodup st
  hci : ci < st.cs.size
  ha : (getC st ci).active = false
  hx : x < st.vs.size
  hy : y < st.vs.size
  hxs : (getV st x).block = sb
  hyb : (getV st y).block = b
  hne : sb ≠ b
  hd : ((getC st ci).l = x ∧ (getC st ci).r = y ∧
          (getV st y).offset + d - (getV st x).offset = (getC st ci).g) ∨
       ((getC st ci).l = y ∧ (getC st ci).r = x ∧
          (getV st x).offset - ((getV st y).offset + d) = (getC st ci).g)

/-- moving everything labelled `b` to the label `sb` -/
private theorem relabel_eq_iff {sb b p q : Nat} (hne : sb ≠ b) :
    (if p = b then sb else p) = (if q = b then sb else q) ↔ (p = q ∨ (p = sb ∧ b = q) ∨ (p = b ∧ sb = q)) := by
  by_cases hp : p = b
  · subst hp
    by_cases hq : q = p
    · simp [hq]
    · simp [hq, Ne.symm hq, Ne.symm hne]
  · by_cases hq : q = b
    · subst hq
      simp [hp, hne, eq_comm]
    · simp [hp, hq, Ne.symm hq]

private theorem ends_iff {l r x y u v : Nat} (h : (l = x ∧ r = y) ∨ (l = y ∧ r = x)) :
    ((l = u ∧ r = v) ∨ (l = v ∧ r = u)) ↔ ((u = x ∧ v = y) ∨ (u = y ∧ v = x)) := by
  rcases h with ⟨rfl, rfl⟩ | ⟨rfl, rfl⟩
  · simp only [eq_comm, and_comm]
  · simp only [eq_comm, and_comm, or_comm]

namespace MergeCtx
variable {st st' : St} {sb b ci : Nat} {d : Rat} {x y : Nat}

theorem blk (M : MergeCtx st st' sb b ci d x y) (u : Nat) :
    (getV st' u).block = if u < st.vs.size ∧ (getV st u).block = b then sb else (getV st u).block := by
  rw [M.gv]; split <;> rfl

theorem off (M : MergeCtx st st' sb b ci d x y) (u : Nat) :
    (getV st' u).offset =
      if u < st.vs.size ∧ (getV st u).block = b then (getV st u).offset + d else (getV st u).offset := by
  rw [M.gv]; split <;> rfl

theorem vstat (M : MergeCtx st st' sb b ci d x y) (u : Nat) :
    (getV st' u).d = (getV st u).d ∧ (getV st' u).w = (getV st u).w ∧ (getV st' u).s = (getV st u).s ∧
    (getV st' u).cOut = (getV st u).cOut ∧ (getV st' u).cIn = (getV st u).cIn := by
  rw [M.gv]; split <;> exact ⟨rfl, rfl, rfl, rfl, rfl⟩

theorem cstat (M : MergeCtx st st' sb b ci d x y) (j : Nat) :
    (getC st' j).l = (getC st j).l ∧ (getC st' j).r = (getC st j).r ∧ (getC st' j).g = (getC st j).g := by
  rw [M.gc]; split
  · next h => subst h; exact ⟨rfl, rfl, rfl⟩
  · exact ⟨rfl, rfl, rfl⟩

theorem cunsat (M : MergeCtx st st' sb b ci d x y) (j : Nat) : (getC st' j).unsat = (getC st j).unsat := by
  rw [M.gc]; split
  · next h => subst h; rfl
  · rfl

theorem cactive_ne (M : MergeCtx st st' sb b ci d x y) (j : Nat) (h : j ≠ ci) :
    (getC st' j).active = (getC st j).active := by
  rw [M.gc, if_neg h]

theorem cactive_ci (M : MergeCtx st st' sb b ci d x y) : (getC st' ci).active = true := by
  rw [M.gc, if_pos rfl]

theorem frame (M : MergeCtx st st' sb b ci d x y) : Frame st st' :=
  ⟨M.vsize, M.csize, Nat.le_of_eq M.bsize.symm, M.vstat, M.cstat, fun h => M.err ▸ h⟩

theorem ends (M : MergeCtx st st' sb b ci d x y) :
    ((getC st ci).l = x ∧ (getC st ci).r = y) ∨ ((getC st ci).l = y ∧ (getC st ci).r = x) := by
  rcases M.hd with ⟨h1, h2, _⟩ | ⟨h1, h2, _⟩
  · exact Or.inl ⟨h1, h2⟩
  · exact Or.inr ⟨h1, h2⟩

theorem adj (M : MergeCtx st st' sb b ci d x y) (z : Option Nat) (u v : Nat) :
    Adj st' z u v ↔ (Adj st z u v ∨ (some ci ≠ z ∧ ((u = x ∧ v = y) ∨ (u = y ∧ v = x)))) := by
  constructor
  · rintro ⟨j, hj, hz, hact, he⟩
    rw [(M.cstat j).1, (M.cstat j).2.1] at he
    by_cases hjc : j = ci
    · subst hjc
      exact Or.inr ⟨hz, (ends_iff M.ends).1 he⟩
    · rw [M.cactive_ne j hjc] at hact
      exact Or.inl ⟨j, M.csize ▸ hj, hz, hact, he⟩
  · rintro (⟨j, hj, hz, hact, he⟩ | ⟨hz, he⟩)
    · have hjc : j ≠ ci := by
        rintro rfl
        rw [M.ha] at hact; exact Bool.false_ne_true hact
      refine ⟨j, M.csize.symm ▸ hj, hz, ?_, ?_⟩
      · rw [M.cactive_ne j hjc]; exact hact
      · rw [(M.cstat j).1, (M.cstat j).2.1]; exact he
    · refine ⟨ci, M.csize.symm ▸ M.hci, hz, M.cactive_ci, ?_⟩
      rw [(M.cstat ci).1, (M.cstat ci).2.1]
      exact (ends_iff M.ends).2 he

theorem adj_old_ci (M : MergeCtx st st' sb b ci d x y) (u v : Nat) :
    Adj st (some ci) u v ↔ Adj st none u v := by
  constructor
  · exact Adj.to_noneS
  · rintro ⟨j, hj, _, hact, he⟩
    refine ⟨j, hj, ?_, hact, he⟩
    intro h
    have : j = ci := Option.some.inj h
    subst this
    rw [M.ha] at hact; exact Bool.false_ne_true hact

theorem conn_ne (M : MergeCtx st st' sb b ci d x y) (z : Option Nat) (hz : some ci ≠ z) (u v : Nat) :
    Conn st' z u v ↔ (Conn st z u v ∨ (Conn st z u x ∧ Conn st z y v) ∨ (Conn st z u y ∧ Conn st z x v)) :=
  rtg_add_edge (fun a c => by rw [M.adj z a c]; simp [hz]) u v

theorem conn_ci (M : MergeCtx st st' sb b ci d x y) (u v : Nat) :
    Conn st' (some ci) u v ↔ Conn st none u v := by
  have e : Adj st' (some ci) = Adj st none := by
    funext a c
    apply propext
    rw [M.adj (some ci) a c, M.adj_old_ci]
    simp
  unfold Conn
  rw [e]

theorem not_conn_xy (M : MergeCtx st st' sb b ci d x y) : ¬ Conn st none x y := by
  intro h
  have := (M.inv.comps x y M.hx M.hy).2 h
  rw [M.hxs, M.hyb] at this
  exact M.hne this

theorem wf (M : MergeCtx st st' sb b ci d x y) : WF st' :=
  WF.of_frame M.frame M.inv.wf
    (fun v hv => by
      rw [M.blk, M.bsize]
      split
      · rw [← M.hxs]; exact M.inv.wf.block_lt x M.hx
      · exact M.inv.wf.block_lt v hv)
    (fun j hj => M.inv.wf.inactive_lt j (M.inactive ▸ hj))

theorem tight (M : MergeCtx st st' sb b ci d x y) (j : Nat) (hj : j < st'.cs.size)
    (hact : (getC st' j).active = true) :
    (getV st' (getC st' j).r).offset - (getV st' (getC st' j).l).offset = (getC st' j).g := by
  rw [M.csize] at hj
  rw [(M.cstat j).1, (M.cstat j).2.1, (M.cstat j).2.2, M.off, M.off]
  have hxb : ¬ (x < st.vs.size ∧ (getV st x).block = b) := fun h => M.hne (M.hxs.symm.trans h.2)
  have hyb : y < st.vs.size ∧ (getV st y).block = b := ⟨M.hy, M.hyb⟩
  by_cases hjc : j = ci
  · subst hjc
    rcases M.hd with ⟨e1, e2, e3⟩ | ⟨e1, e2, e3⟩
    · rw [e1, e2, if_neg hxb, if_pos hyb]; exact e3
    · rw [e1, e2, if_neg hxb, if_pos hyb]; exact e3
  · rw [M.cactive_ne j hjc] at hact
    obtain ⟨hl, hr⟩ := M.inv.wf.lr j hj
    have hb := same_block_of_active M.inv hj hact
    have ht := M.inv.tight j hj hact
    by_cases h : (getV st (getC st j).l).block = b
    · rw [if_pos ⟨hr, hb ▸ h⟩, if_pos ⟨hl, h⟩, add_sub_add_right_eq_sub]; exact ht
    · rw [if_neg (fun h' => h (hb ▸ h'.2)), if_neg (fun h' => h h'.2)]; exact ht

theorem comps (M : MergeCtx st st' sb b ci d x y) (u v : Nat) (hu : u < st'.vs.size) (hv : v < st'.vs.size) :
    (getV st' u).block = (getV st' v).block ↔ Conn st' none u v := by
  rw [M.vsize] at hu hv
  rw [M.conn_ne none (by simp) u v, ← M.inv.comps u v hu hv, ← M.inv.comps u x hu M.hx,
    ← M.inv.comps y v M.hy hv, ← M.inv.comps u y hu M.hy, ← M.inv.comps x v M.hx hv,
    M.blk, M.blk, M.hxs, M.hyb]
  simp only [hu, hv, true_and]
  exact relabel_eq_iff M.hne

theorem forest (M : MergeCtx st st' sb b ci d x y) (j : Nat) (hj : j < st'.cs.size)
    (hact : (getC st' j).active = true) : ¬ Conn st' (some j) (getC st' j).l (getC st' j).r := by
  rw [M.csize] at hj
  rw [(M.cstat j).1, (M.cstat j).2.1]
  by_cases hjc : j = ci
  · subst hjc
    rw [M.conn_ci]
    rcases M.ends with ⟨e1, e2⟩ | ⟨e1, e2⟩
    · rw [e1, e2]; exact M.not_conn_xy
    · rw [e1, e2]; exact fun h => M.not_conn_xy h.symmS
  · rw [M.cactive_ne j hjc] at hact
    have hne : some ci ≠ some j := fun h => hjc (Option.some.inj h).symm
    rw [M.conn_ne (some j) hne]
    have hlr := (Adj.of_active hj hact).connS
    rintro (h | ⟨h1, h2⟩ | ⟨h1, h2⟩)
    · exact M.inv.forest j hj hact h
    · -- x ~ l — r ~ y in the old graph
      exact M.not_conn_xy ((h1.to_noneS.symmS.trans hlr).trans h2.to_noneS.symmS)
    · exact M.not_conn_xy (h2.to_noneS.trans (hlr.symmS.trans h1.to_noneS))

theorem mem_vars_sb (M : MergeCtx st st' sb b ci d x y) (u : Nat) :
    u ∈ (getB st sb).vars ↔ (u < st.vs.size ∧ (getV st u).block = sb) := by
  have := M.inv.members x M.hx u
  rwa [M.hxs] at this

theorem mem_vars_b (M : MergeCtx st st' sb b ci d x y) (u : Nat) :
    u ∈ (getB st b).vars ↔ (u < st.vs.size ∧ (getV st u).block = b) := by
  have := M.inv.members y M.hy u
  rwa [M.hyb] at this

theorem blk_of_ne (M : MergeCtx st st' sb b ci d x y) {v : Nat} (hv : v < st.vs.size) (hs : (getV st' v).block ≠ sb) :
    (getV st' v).block = (getV st v).block ∧ (getV st v).block ≠ b := by
  rw [M.blk] at hs ⊢
  split
  · next h => rw [if_pos h] at hs; exact absurd rfl hs
  · next h => exact ⟨rfl, fun hb => h ⟨hv, hb⟩⟩

theorem members (M : MergeCtx st st' sb b ci d x y) (v : Nat) (hv : v < st'.vs.size) (u : Nat) :
    u ∈ (getB st' (getV st' v).block).vars ↔ (u < st'.vs.size ∧ (getV st' u).block = (getV st' v).block) := by
  rw [M.vsize] at hv ⊢
  have hne := M.hne
  by_cases hs : (getV st' v).block = sb
  · rw [hs, M.varsSelf, List.mem_append, M.mem_vars_sb, M.mem_vars_b, M.blk]
    split_ifs <;> omega
  · obtain ⟨hvb, hvb'⟩ := M.blk_of_ne hv hs
    rw [M.varsOther _ hs]
    rw [hvb] at hs ⊢
    rw [M.inv.members v hv u, M.blk]
    split_ifs <;> omega

theorem varsNodup (M : MergeCtx st st' sb b ci d x y) : VarsNodup st' := by
  intro v hv
  rw [M.vsize] at hv
  by_cases hs : (getV st' v).block = sb
  · rw [hs, M.varsSelf, List.nodup_append]
    refine ⟨?_, ?_, ?_⟩
    · have := M.nd x M.hx; rwa [M.hxs] at this
    · have := M.nd y M.hy; rwa [M.hyb] at this
    · intro a ha c hc hac
      subst hac
      exact M.hne (((M.mem_vars_sb a).1 ha).2.symm.trans ((M.mem_vars_b a).1 hc).2)
  · rw [M.varsOther _ hs, (M.blk_of_ne hv hs).1]
    exact M.nd v hv

theorem inv' (M : MergeCtx st st' sb b ci d x y) : Inv st' :=
  ⟨M.wf, M.tight, M.comps, M.forest, M.members⟩

end MergeCtx

/-! ## 4. `Blocks.merge` -/

theorem mergeBlocks_ctx (st : St) (ci : Nat) (hinv : Inv st) (hnd : VarsNodup st) (hci : ci < st.cs.size)
    (ha : (getC st ci).active = false)
    (hb : (getV st (getC st ci).l).block ≠ (getV st (getC st ci).r).block) :
    ∃ sb b d x y, mergeBlocks st ci = removeBlock (mergeAcross st sb b ci d) b ∧
      MergeCtx st (mergeAcross st sb b ci d) sb b ci d x y := by
  obtain ⟨hl, hr⟩ := hinv.wf.lr ci hci
  unfold mergeBlocks
  simp only
  split
  · refine ⟨_, _, _, (getC st ci).r, (getC st ci).l, rfl, ?_⟩
    exact { toMergeEff := mergeAcross_eff st _ _ ci _ hinv hnd hci (hinv.wf.block_lt _ hr) _ hl rfl
            inv := hinv, nd := hnd, hci := hci, ha := ha, hx := hr, hy := hl, hxs := rfl, hyb := rfl
            hne := fun h => hb h.symm
            hd := Or.inr ⟨rfl, rfl, by ring⟩ }
  · refine ⟨_, _, _, (getC st ci).l, (getC st ci).r, rfl, ?_⟩
    exact { toMergeEff := mergeAcross_eff st _ _ ci _ hinv hnd hci (hinv.wf.block_lt _ hl) _ hr rfl
            inv := hinv, nd := hnd, hci := hci, ha := ha, hx := hl, hy := hr, hxs := rfl, hyb := rfl
            hne := hb
            hd := Or.inl ⟨rfl, rfl, by ring⟩ }

/-- the state `s'` after `mergeBlocks st ci`: the invariant holds again, and of the flags only `active` of `ci` changed -/
structure Merged (st : St) (ci : Nat) (s' : St) : Prop where
  inv : Inv s'
  frame : Frame st s'
  inactive_eq : s'.inactive = st.inactive
  active_ci : (getC s' ci).active = true
  active_ne : ∀ c, c ≠ ci → (getC s' c).active = (getC st c).active
  unsat_eq : ∀ c, (getC s' c).unsat = (getC st c).unsat

theorem mergeBlocks_inv (st : St) (ci : Nat) (hinv : Inv st) (hnd : VarsNodup st) (hci : ci < st.cs.size)
    (ha : (getC st ci).active = false)
    (hb : (getV st (getC st ci).l).block ≠ (getV st (getC st ci).r).block) : Merged st ci (mergeBlocks st ci) := by
  obtain ⟨sb, b, d, x, y, e, M⟩ := mergeBlocks_ctx st ci hinv hnd hci ha hb
  rw [e]
  have E := removeBlock_coreEq (mergeAcross st sb b ci d) b
  refine ⟨Inv.of_coreEq E M.inv', M.frame.trans E.toFrame, E.inactive_eq.trans M.inactive, ?_, ?_, ?_⟩
  · rw [(E.flags ci).1]; exact M.cactive_ci
  · intro c hc
    rw [(E.flags c).1]; exact M.cactive_ne c hc
  · intro c
    rw [(E.flags c).2]; exact M.cunsat c

theorem mergeBlocks_varsNodup (st : St) (ci : Nat) (hinv : Inv st) (hnd : VarsNodup st) (hci : ci < st.cs.size)
    (ha : (getC st ci).active = false)
    (hb : (getV st (getC st ci).l).block ≠ (getV st (getC st ci).r).block) : VarsNodup (mergeBlocks st ci) := by
  obtain ⟨sb, b, d, x, y, e, M⟩ := mergeBlocks_ctx st ci hinv hnd hci ha hb
  rw [e]
  exact VarsNodup.of_coreEq (removeBlock_coreEq (mergeAcross st sb b ci d) b) M.varsNodup

theorem mergeAcross_getC (st : St) (sb b ci : Nat) (d : Rat) (c : Nat) :
    getC (mergeAcross st sb b ci d) c = getC (setC st ci { getC st ci with active := true }) c := by
  rw [mergeAcross_eq]
  unfold getC
  exact congrArg (fun a => a.getD c default) (foldl_mstep_fields sb d _ _).1

theorem mergeBlocks_lm (st : St) (ci c : Nat) : (getC (mergeBlocks st ci) c).lm = (getC st c).lm := by
  have key : ∀ sb b d, (getC (removeBlock (mergeAcross st sb b ci d) b) c).lm = (getC st c).lm := fun sb b d => by
    rw [getC_congr (removeBlock_cs _ _), mergeAcross_getC, getC_setC]
    split
    · next h => rw [h.1]
    · rfl
  unfold mergeBlocks
  dsimp only
  split <;> exact key _ _ _

end Labella.Vpsc
