import Labella.Proofs.VpscPath
import Labella.Proofs.VpscKKT
import Mathlib.Algebra.Order.BigOperators.Group.Finset
import Mathlib.Algebra.BigOperators.Ring.Finset
import Mathlib.Tactic.Ring
import Mathlib.Tactic.Linarith
/-! # Path instances with unit scales: the first `satisfy` pass leaves no negative multiplier, the second changes nothing

Pool-adjacent-violators argument for the transliterated solver.

* `bpre st c` — the sum of the gradients `dfdv` of the variables of the block of `c` that lie on the left of the cut `c`;
  `lam_eq_neg_bpre`: on a path with unit scales the multiplier of an active constraint `c` is `- bpre st c` in ANY assignment of
  multipliers that balances the variables of the block of `c`;
* `NonnegLM st` — `bpre st c ≤ 0` for every active `c`; it holds when no constraint is active, it is kept by `mergeBlocks` across a
  violated constraint (`mergeBlocks_nonnegLM`), by `mostViolated` and by every step that only rewrites multipliers;
* `LmNN st` — no constraint stores a negative multiplier; in a state with `NonnegLM` every multiplier `findMinLM` rewrites is minus a
  cut sum, so `LmNN` is kept, whichever constraint `findMinLM` reports fails the test of `Blocks.split`, and the split pass splits
  nothing (`blocksSplit_calm`); merges and `mostViolated` write no multiplier. -/
namespace Labella.Vpsc
open KKT Finset

def isum (n : Nat) (P : Nat → Prop) [DecidablePred P] (f : Nat → Rat) : Rat :=
  ∑ x ∈ (range n).filter P, f x

theorem isum_congr {n : Nat} {P Q : Nat → Prop} [DecidablePred P] [DecidablePred Q] {f g : Nat → Rat}
    (hPQ : ∀ x, x < n → (P x ↔ Q x)) (hfg : ∀ x, x < n → P x → f x = g x) : isum n P f = isum n Q g :=
  Finset.sum_congr (Finset.filter_congr fun x hx => hPQ x (mem_range.1 hx)) fun x hx =>
    have hx' := mem_range.1 (mem_filter.1 hx).1
    hfg x hx' ((hPQ x hx').2 (mem_filter.1 hx).2)

theorem isum_add (n : Nat) (P : Nat → Prop) [DecidablePred P] (f g : Nat → Rat) :
    isum n P (fun x => f x + g x) = isum n P f + isum n P g :=
  Finset.sum_add_distrib

theorem isum_mul (n : Nat) (P : Nat → Prop) [DecidablePred P] (k : Rat) (f : Nat → Rat) :
    isum n P (fun x => k * f x) = k * isum n P f :=
  (Finset.mul_sum _ _ _).symm

theorem isum_nonneg {n : Nat} {P : Nat → Prop} [DecidablePred P] {f : Nat → Rat}
    (h : ∀ x, x < n → P x → 0 ≤ f x) : 0 ≤ isum n P f :=
  Finset.sum_nonneg fun x hx => h x (mem_range.1 (mem_filter.1 hx).1) (mem_filter.1 hx).2

theorem isum_mono {n : Nat} {P Q : Nat → Prop} [DecidablePred P] [DecidablePred Q] {f : Nat → Rat}
    (hPQ : ∀ x, x < n → P x → Q x) (h : ∀ x, x < n → Q x → 0 ≤ f x) : isum n P f ≤ isum n Q f :=
  Finset.sum_le_sum_of_subset_of_nonneg
    (fun x hx => mem_filter.2 ⟨(mem_filter.1 hx).1, hPQ x (mem_range.1 (mem_filter.1 hx).1) (mem_filter.1 hx).2⟩)
    fun x hx _ => h x (mem_range.1 (mem_filter.1 hx).1) (mem_filter.1 hx).2

theorem isum_or {n : Nat} {P Q : Nat → Prop} [DecidablePred P] [DecidablePred Q] {f : Nat → Rat}
    (hdis : ∀ x, x < n → P x → Q x → False) :
    isum n (fun x => P x ∨ Q x) f = isum n P f + isum n Q f := by
  unfold isum
  rw [Finset.filter_or, Finset.sum_union]
  exact Finset.disjoint_filter.2 fun x hx hp hq => hdis x (mem_range.1 hx) hp hq

theorem isum_pos {n : Nat} {P : Nat → Prop} [DecidablePred P] {f : Nat → Rat}
    (h : ∀ x, x < n → P x → 0 < f x) (hex : ∃ x, x < n ∧ P x) : 0 < isum n P f := by
  obtain ⟨y, hy, hpy⟩ := hex
  exact Finset.sum_pos (fun x hx => h x (mem_range.1 (mem_filter.1 hx).1) (mem_filter.1 hx).2)
    ⟨y, mem_filter.2 ⟨mem_range.2 hy, hpy⟩⟩

theorem isum_eq_zero {n : Nat} {P : Nat → Prop} [DecidablePred P] {f : Nat → Rat}
    (h : ∀ x, x < n → ¬ P x) : isum n P f = 0 :=
  Finset.sum_eq_zero fun x hx => absurd (mem_filter.1 hx).2 (h x (mem_range.1 (mem_filter.1 hx).1))

def bpre (st : St) (c : Nat) : Rat :=
  isum st.vs.size (fun x => x ≤ (getC st c).l ∧ (getV st x).block = (getV st (getC st c).l).block) (dfdv st)

/-- no active constraint carries a negative multiplier, said without reference to the stored `lm` fields: by
`lam_eq_neg_bpre` the multiplier of an active `c` in a balanced block is `- bpre st c`, hence `bpre st c ≤ 0` -/
def NonnegLM (st : St) : Prop := ∀ c, c < st.cs.size → (getC st c).active = true → bpre st c ≤ 0

def UnitSc (st : St) : Prop := ∀ v, v < st.vs.size → (getV st v).s = 1

theorem UnitSc.of_frame {st st' : St} (h : Frame st st') (hu : UnitSc st) : UnitSc st' := by
  intro v hv
  rw [h.vsize] at hv
  rw [(h.vstat v).2.2.1]
  exact hu v hv

theorem lam_eq_neg_bpre {st s : St} (hinv : Inv st) (hp : IsPathSt st) (hu : UnitSc st) {c0 : Nat} (hc0 : c0 < st.cs.size)
    (ha : (getC st c0).active = true)
    (hbal : ∀ x, x < st.vs.size → (getV st x).block = (getV st (getC st c0).l).block → netVx st s none x = dfdv st x) :
    (getC s c0).lm = - bpre st c0 := by
  -- add up the balance equations of the variables of the block on the left of the cut: every other active constraint has both
  -- ends on one side and drops out
  have hex := sum_mul_netVx hinv.wf s
    fun x => if x ≤ (getC st c0).l ∧ (getV st x).block = (getV st (getC st c0).l).block then 1 else 0
  have hlhs : ∀ i ∈ range st.vs.size,
      (if i ≤ (getC st c0).l ∧ (getV st i).block = (getV st (getC st c0).l).block then (1 : Rat) else 0) * netVx st s none i =
      if i ≤ (getC st c0).l ∧ (getV st i).block = (getV st (getC st c0).l).block then dfdv st i else 0 := by
    intro i hi
    rw [ite_mul, one_mul, zero_mul]
    exact ite_congr rfl (fun hP => hbal i (mem_range.1 hi) hP.2) fun _ => rfl
  have hr0 := (hp.1 c0 hc0).1
  rw [Finset.sum_congr rfl hlhs, sum_range_split _ _ c0 hc0, List.sum_eq_zero, zero_add, lam_active ha, hr0,
    if_neg (fun h => by omega), if_pos ⟨Nat.le_refl _, rfl⟩, hu _ (hinv.wf.lr c0 hc0).1, mul_zero, mul_one, zero_sub,
    mul_neg, mul_one] at hex
  · unfold bpre isum
    rw [Finset.sum_filter, hex, neg_neg]
  · intro t ht
    obtain ⟨c, hc, rfl⟩ := List.mem_map.1 ht
    rw [List.mem_range] at hc
    by_cases hcc : c = c0
    · rw [if_pos hcc]
    · rw [if_neg hcc]
      cases hact : (getC st c).active with
      | false => rw [lam_inactive hact, zero_mul]
      | true =>
        have hr := (hp.1 c hc).1
        have hne : (getC st c).l ≠ (getC st c0).l := fun e => hcc (hp.2 c c0 hc hc0 e)
        rw [hu _ (hinv.wf.lr c hc).1, hu _ (hinv.wf.lr c hc).2, ← same_block_of_active hinv hc hact,
          if_congr (and_congr_left' (show (getC st c).r ≤ (getC st c0).l ↔ (getC st c).l ≤ (getC st c0).l by omega)) rfl rfl,
          sub_self, mul_zero]

/-! ## pure arithmetic of a pooling step -/

theorem isum_shift {n : Nat} {blk : Nat → Nat} {w g g' t : Nat → Rat} (hg' : ∀ x, x < n → g' x = g x + 2 * t (blk x) * w x)
    (Q : Nat → Prop) [DecidablePred Q] (b : Nat) :
    isum n (fun x => Q x ∧ blk x = b) g' =
      isum n (fun x => Q x ∧ blk x = b) g + 2 * t b * isum n (fun x => Q x ∧ blk x = b) w := by
  rw [← isum_mul, ← isum_add]
  exact isum_congr (fun _ _ => Iff.rfl) (fun x hx hP => by rw [hg' x hx, hP.2])

/-- One pooling step on `n` variables, in the abstract: `blk`, `g` are the block ids and gradients before the step, `blk'`, `g'` after it, `w` the
weights.  The blocks `bL` (at or left of position `l`) and `bR` (right of `l`), each balanced, become the block `m`, which is balanced again; every
block `b` is shifted rigidly by `t b`, only the two pooled ones move, and they move apart. -/
structure Pooled (n : Nat) (blk blk' : Nat → Nat) (w g g' : Nat → Rat) (bL bR m l : Nat) (t : Nat → Rat) : Prop where
  ne : bL ≠ bR
  m_eq : m = bL ∨ m = bR
  relabel : ∀ x, x < n → blk' x = if blk x = bL ∨ blk x = bR then m else blk x
  grad : ∀ x, x < n → g' x = g x + 2 * t (blk x) * w x
  w_pos : ∀ x, x < n → 0 < w x
  t0 : ∀ β, β ≠ bL → β ≠ bR → t β = 0
  sideL : ∀ x, x < n → blk x = bL → x ≤ l
  sideR : ∀ x, x < n → blk x = bR → l < x
  exL : ∃ x, x < n ∧ blk x = bL
  exR : ∃ x, x < n ∧ blk x = bR
  balL : isum n (fun x => blk x = bL) g = 0
  balR : isum n (fun x => blk x = bR) g = 0
  bal' : isum n (fun x => blk' x = m) g' = 0
  apart : 0 < t bR - t bL

namespace Pooled
variable {n : Nat} {blk blk' : Nat → Nat} {w g g' : Nat → Rat} {bL bR m l : Nat} {t : Nat → Rat}
  (P : Pooled n blk blk' w g g' bL bR m l t)
include P

theorem merged_iff {x : Nat} (hx : x < n) : blk' x = m ↔ blk x = bL ∨ blk x = bR := by
  rw [P.relabel x hx]
  split_ifs with h
  · exact ⟨fun _ => h, fun _ => rfl⟩
  · exact ⟨fun e => P.m_eq.imp e.trans e.trans, fun h' => absurd h' h⟩

theorem shift_signs :
    t bL * isum n (fun x => blk x = bL) w + t bR * isum n (fun x => blk x = bR) w = 0 ∧ t bL ≤ 0 ∧ 0 ≤ t bR := by
  have e := fun b => isum_shift P.grad (fun _ => True) b
  simp only [true_and] at e
  have h5 := P.bal'
  rw [isum_congr (fun x hx => P.merged_iff hx) (fun _ _ _ => rfl),
    isum_or (fun x _ h1 h2 => P.ne (h1.symm.trans h2)), e, e, P.balL, P.balR] at h5
  have hWL : 0 < isum n (fun x => blk x = bL) w := isum_pos (fun x hx _ => P.w_pos x hx) P.exL
  have hWR : 0 < isum n (fun x => blk x = bR) w := isum_pos (fun x hx _ => P.w_pos x hx) P.exR
  have hLR : t bL < t bR := sub_pos.1 P.apart
  have key : t bL * isum n (fun x => blk x = bL) w + t bR * isum n (fun x => blk x = bR) w = 0 := by
    refine (mul_eq_zero.1 ?_).resolve_left (two_ne_zero (α := Rat))
    rw [← h5]
    ring
  refine ⟨key, ?_, ?_⟩
  · by_contra hc
    have h1 : 0 < t bL := not_le.1 hc
    exact (add_pos (mul_pos h1 hWL) (mul_pos (h1.trans hLR) hWR)).ne' key
  · by_contra hc
    have h2 : t bR < 0 := not_le.1 hc
    exact (add_neg (mul_neg_of_neg_of_pos (hLR.trans h2) hWL) (mul_neg_of_neg_of_pos h2 hWR)).ne key

theorem cut_other {a : Nat} (ha : a < n) (hin : ¬ (blk a = bL ∨ blk a = bR)) :
    isum n (fun x => x ≤ a ∧ blk' x = blk' a) g' = isum n (fun x => x ≤ a ∧ blk x = blk a) g := by
  have key : ∀ x, x < n → (blk' x = blk' a ↔ blk x = blk a) := by
    intro x hx
    rw [P.relabel a ha, if_neg hin, P.relabel x hx]
    split_ifs with hx'
    · exact ⟨fun e => absurd (e ▸ P.m_eq) hin, fun e => absurd (e ▸ hx') hin⟩
    · exact Iff.rfl
  exact isum_congr (fun x hx => and_congr_right' (key x hx)) (fun x hx hP => by
    rw [P.grad x hx, (key x hx).1 hP.2, P.t0 _ (not_or.1 hin).1 (not_or.1 hin).2, mul_zero, zero_mul, add_zero])

theorem cut_merged {a : Nat} (ha : a < n) (hin : blk a = bL ∨ blk a = bR) :
    isum n (fun x => x ≤ a ∧ blk' x = blk' a) g' =
      (isum n (fun x => x ≤ a ∧ blk x = bL) g + 2 * t bL * isum n (fun x => x ≤ a ∧ blk x = bL) w) +
      (isum n (fun x => x ≤ a ∧ blk x = bR) g + 2 * t bR * isum n (fun x => x ≤ a ∧ blk x = bR) w) := by
  rw [← isum_shift P.grad, ← isum_shift P.grad, ← isum_or (fun x _ h1 h2 => P.ne (h1.2.symm.trans h2.2))]
  refine isum_congr (fun x hx => ?_) (fun _ _ _ => rfl)
  rw [(P.merged_iff ha).2 hin, P.merged_iff hx, and_or_left]

/-- **a pooling step is never regretted**: a cut sum that was `≤ 0` before the step is `≤ 0` after it -/
theorem cut_nonpos {a : Nat} (ha : a < n) (hcut : isum n (fun x => x ≤ a ∧ blk x = blk a) g ≤ 0) :
    isum n (fun x => x ≤ a ∧ blk' x = blk' a) g' ≤ 0 := by
  obtain ⟨key, htL, htR⟩ := P.shift_signs
  by_cases hin : blk a = bL ∨ blk a = bR
  · rw [P.cut_merged ha hin]
    rcases hin with h1 | h2
    · -- `a` in the left block: nothing of the right block lies on its left
      have hR0 : ∀ f, isum n (fun x => x ≤ a ∧ blk x = bR) f = 0 := fun f =>
        isum_eq_zero fun x hx h => (P.sideR x hx h.2).not_ge (h.1.trans (P.sideL a ha h1))
      rw [hR0, hR0, mul_zero, add_zero, add_zero]
      rw [h1] at hcut
      exact add_nonpos hcut (mul_nonpos_of_nonpos_of_nonneg (mul_nonpos_of_nonneg_of_nonpos zero_le_two htL)
        (isum_nonneg fun x hx _ => (P.w_pos x hx).le))
    · -- `a` in the right block: all of the left block lies on its left
      have hLall : ∀ f, isum n (fun x => x ≤ a ∧ blk x = bL) f = isum n (fun x => blk x = bL) f := fun f =>
        isum_congr (fun x hx => ⟨fun h => h.2, fun h => ⟨(P.sideL x hx h).trans (P.sideR a ha h2).le, h⟩⟩)
          (fun _ _ _ => rfl)
      rw [hLall, hLall, P.balL]
      rw [h2] at hcut
      have hmono : isum n (fun x => x ≤ a ∧ blk x = bR) w ≤ isum n (fun x => blk x = bR) w :=
        isum_mono (fun x _ h => h.2) (fun x hx _ => (P.w_pos x hx).le)
      have := mul_le_mul_of_nonneg_left hmono htR
      linarith only [this, hcut, key]
  · rw [P.cut_other ha hin]
    exact hcut

end Pooled

/-- the reference position of a block -/
def bref (st : St) (b : Nat) : Rat := (getB st b).scale * (getB st b).posn

theorem position_unit {st : St} (hu : UnitSc st) {x : Nat} (hx : x < st.vs.size) :
    position st x = bref st (getV st x).block + (getV st x).offset := by
  unfold position bref
  simp only
  rw [hu x hx, div_one]

theorem dfdv_eq (st : St) (x : Nat) : dfdv st x = 2 * (getV st x).w * (position st x - (getV st x).d) := rfl

theorem slack_unit {st : St} (hu : UnitSc st) (hwf : WF st) {c : Nat} (hc : c < st.cs.size)
    (hun : (getC st c).unsat = false) :
    slack st c = position st (getC st c).r - (getC st c).g - position st (getC st c).l := by
  unfold slack
  simp only [hun, Bool.false_eq_true, if_false]
  rw [hu _ (hwf.lr c hc).1, hu _ (hwf.lr c hc).2]
  ring

theorem block_isum_zero {st : St} (hinv : Inv st) (hnd : VarsNodup st) (hstats : StatsInv st) (hw : PosW st) (hu : UnitSc st)
    {v : Nat} (hv : v < st.vs.size) :
    isum st.vs.size (fun x => (getV st x).block = (getV st v).block) (dfdv st) = 0 := by
  have h1 := block_stationary hinv hstats hw hv
  rw [block_sum hinv hnd hv] at h1
  rw [← h1]
  unfold isum
  rw [Finset.sum_filter]
  apply Finset.sum_congr rfl
  intro x hx
  rw [Finset.mem_range] at hx
  rw [hu x hx, div_one]

theorem merge_positions (st : St) (ci : Nat) (hinv : Inv st) (hnd : VarsNodup st) (hci : ci < st.cs.size)
    (ha : (getC st ci).active = false)
    (hb : (getV st (getC st ci).l).block ≠ (getV st (getC st ci).r).block) (hs : StatsInv st) (hu : UnitSc st) :
    ∃ (t : Nat → Rat) (m : Nat), (m = (getV st (getC st ci).l).block ∨ m = (getV st (getC st ci).r).block) ∧
      (∀ x, x < st.vs.size → (getV (mergeBlocks st ci) x).block =
        if (getV st x).block = (getV st (getC st ci).l).block ∨ (getV st x).block = (getV st (getC st ci).r).block then m
        else (getV st x).block) ∧
      (∀ x, x < st.vs.size → position (mergeBlocks st ci) x = position st x + t (getV st x).block) ∧
      (∀ β, β ≠ (getV st (getC st ci).l).block → β ≠ (getV st (getC st ci).r).block → t β = 0) := by
  obtain ⟨sb, b, d, x, y, e, M⟩ := mergeBlocks_ctx st ci hinv hnd hci ha hb
  obtain ⟨_, m2, _, _⟩ := M.across_blocks hnd hs
  have hSE := removeBlock_statEq (mergeAcross st sb b ci d) b
  rw [e]
  generalize mergeAcross st sb b ci d = stM at *
  have hblk : ∀ z, z < st.vs.size → (getV (removeBlock stM b) z).block =
      if (getV st z).block = sb ∨ (getV st z).block = b then sb else (getV st z).block := by
    intro z hz
    rw [hSE.getV, M.blk]
    by_cases h1 : (getV st z).block = b
    · rw [if_pos ⟨hz, h1⟩, if_pos (Or.inr h1)]
    · rw [if_neg (fun h => h1 h.2)]
      by_cases h2 : (getV st z).block = sb
      · rw [if_pos (Or.inl h2), h2]
      · rw [if_neg (fun h => h.elim h2 h1)]
  -- positions: a variable of `b` goes to `sb` with its offset raised by `d`; reference positions other than that of `sb` stay
  have hpos : ∀ z, z < st.vs.size → position (removeBlock stM b) z = position st z +
      (bref stM (if (getV st z).block = b then sb else (getV st z).block) + (if (getV st z).block = b then d else 0)
        - bref st (getV st z).block) := by
    intro z hz
    rw [position_of_statEq hSE, position_unit (hu.of_frame M.frame) (by rw [M.vsize]; exact hz), position_unit hu hz, M.blk, M.off]
    simp only [hz, true_and]
    split_ifs <;> ring
  have ht0 : ∀ β, β ≠ sb → β ≠ b → bref stM (if β = b then sb else β) + (if β = b then d else 0) - bref st β = 0 := by
    intro β h1 h2
    rw [if_neg h2, if_neg h2, add_zero, bref, m2 β h1]
    exact sub_self _
  refine ⟨fun β => bref stM (if β = b then sb else β) + (if β = b then d else 0) - bref st β, sb, ?_⟩
  rcases M.hd with ⟨e1, e2, _⟩ | ⟨e1, e2, _⟩
  · -- the left block survives
    rw [e1, e2, M.hxs, M.hyb]
    exact ⟨Or.inl rfl, hblk, hpos, ht0⟩
  · -- the right block survives
    rw [e1, e2, M.hxs, M.hyb]
    exact ⟨Or.inr rfl, fun z hz => (hblk z hz).trans (if_congr Or.comm rfl rfl), hpos, fun β h1 h2 => ht0 β h2 h1⟩

theorem mergeBlocks_nonnegLM (st : St) (ci : Nat) (h : Inv2 st)
    (hp : IsPathSt st) (hu : UnitSc st) (hw : PosW st) (hN : NonnegLM st) (hci : ci < st.cs.size)
    (ha : (getC st ci).active = false) (hun : (getC st ci).unsat = false) (hviol : slack st ci < 0) :
    NonnegLM (mergeBlocks st ci) := by
  obtain ⟨hinv, hnd, _, hL, hs⟩ := h
  have hb := path_block_ne st ci hinv hp hci ha
  obtain ⟨i1, hF, _, hact, hact', hunsat'⟩ := mergeBlocks_inv st ci hinv hnd hci ha hb
  obtain ⟨_, s1⟩ := mergeBlocks_list_stats st ci hinv hnd hci ha hb hL hs
  have n1 := mergeBlocks_varsNodup st ci hinv hnd hci ha hb
  obtain ⟨t, m, hm, hblk', hpos, ht0⟩ := merge_positions st ci hinv hnd hci ha hb hs hu
  generalize mergeBlocks st ci = st' at *
  obtain ⟨hl, hr⟩ := hinv.wf.lr ci hci
  have hu' : UnitSc st' := hu.of_frame hF
  have hci' : ci < st'.cs.size := hF.csize ▸ hci
  have hun' : (getC st' ci).unsat = false := (hunsat' ci).trans hun
  -- the two shifts differ by the violation
  have h6 : 0 < t (getV st (getC st ci).r).block - t (getV st (getC st ci).l).block := by
    have hsl' := slack_active st' i1 ci hci' hact hun'
    rw [slack_unit hu' i1.wf hci' hun', (hF.cstat ci).1, (hF.cstat ci).2.1, (hF.cstat ci).2.2, hpos _ hr, hpos _ hl] at hsl'
    have hsl := slack_unit hu hinv.wf hci hun
    linarith only [hsl', hsl, hviol]
  have hg' : ∀ x, x < st.vs.size → dfdv st' x = dfdv st x + 2 * t (getV st x).block * (getV st x).w := by
    intro x hx
    rw [dfdv_eq, dfdv_eq, hpos x hx, (hF.vstat x).2.1, (hF.vstat x).1]
    ring
  have hsideL : ∀ x, x < st.vs.size → (getV st x).block = (getV st (getC st ci).l).block → x ≤ (getC st ci).l :=
    fun x hx h => (hp.conn_side hci ha ((hinv.comps x _ hx hl).1 h)).2 (Nat.le_refl _)
  have hsideR : ∀ x, x < st.vs.size → (getV st x).block = (getV st (getC st ci).r).block → (getC st ci).l < x := by
    intro x hx h
    rw [← not_le, hp.conn_side hci ha ((hinv.comps x _ hx hr).1 h), (hp.1 ci hci).1]
    exact Nat.not_succ_le_self _
  have h5 := block_isum_zero i1 n1 s1 (hw.of_frame hF) hu' (v := (getC st ci).l) (hF.vsize ▸ hl)
  rw [hF.vsize, (hblk' _ hl).trans (if_pos (Or.inl rfl))] at h5
  have P : Pooled st.vs.size (fun x => (getV st x).block) (fun x => (getV st' x).block) (fun x => (getV st x).w) (dfdv st) (dfdv st')
      (getV st (getC st ci).l).block (getV st (getC st ci).r).block m (getC st ci).l t :=
    ⟨hb, hm, hblk', hg', hw, ht0, hsideL, hsideR, ⟨_, hl, rfl⟩, ⟨_, hr, rfl⟩, block_isum_zero hinv hnd hs hw hu hl,
      block_isum_zero hinv hnd hs hw hu hr, h5, h6⟩
  intro c hc hactc
  rw [hF.csize] at hc
  unfold bpre
  rw [hF.vsize, (hF.cstat c).1]
  refine P.cut_nonpos (hinv.wf.lr c hc).1 ?_
  by_cases hcc : c = ci
  · subst hcc
    exact le_of_eq ((isum_congr (fun x hx => ⟨fun h => h.2, fun h => ⟨hsideL x hx h, h⟩⟩) (fun _ _ _ => rfl)).trans P.balL)
  · exact hN c hc ((hact' c hcc).symm.trans hactc)

/-! ## steps that leave positions, blocks and active flags alone keep `NonnegLM` -/

theorem NonnegLM.congr {st s : St} (hvs : s.vs = st.vs) (hbs : s.bs = st.bs) (hcsz : s.cs.size = st.cs.size)
    (hl : ∀ c, (getC s c).l = (getC st c).l) (hact : ∀ c, (getC s c).active = (getC st c).active) (hN : NonnegLM st) :
    NonnegLM s := by
  have hV := getV_congr hvs
  have hB := getB_congr hbs
  have hd : dfdv s = dfdv st := by
    funext i
    unfold dfdv position
    simp only [hV, hB]
  intro c hc ha
  rw [hcsz] at hc
  rw [hact] at ha
  have := hN c hc ha
  unfold bpre at this ⊢
  rw [hvs, hl, hd]
  simp only [hV]
  exact this

theorem NonnegLM.of_lmOnly {st s : St} (h : LmOnly st s) (hN : NonnegLM st) : NonnegLM s :=
  hN.congr h.core.vs_eq h.bs_eq h.core.csize h.l h.active

theorem NonnegLM.of_mv {st : St} (hN : NonnegLM st) : NonnegLM (mostViolated st).1 := by
  have S := mostViolated_spec st
  exact hN.congr S.vs_eq S.bs_eq (by rw [S.cs_eq]) (fun c => by rw [mostViolated_getC]) (fun c => by rw [mostViolated_getC])

def LmNN (st : St) : Prop := ∀ c, 0 ≤ (getC st c).lm

theorem LmNN.of_mv {st : St} (h : LmNN st) : LmNN (mostViolated st).1 := fun c => by
  rw [mostViolated_getC]
  exact h c

theorem LmNN.of_merge {st : St} (h : LmNN st) (ci : Nat) : LmNN (mergeBlocks st ci) := fun c => by
  rw [mergeBlocks_lm]
  exact h c

/-! ## the position update at the start of `Blocks.split` changes nothing when the statistics are exact -/

theorem blocksSplit_eq_splitLoop (st : St) (hL : ListInv st) (hS : StatsInv st) :
    blocksSplit st = splitLoop (st.list.size + 3) st st.list true 0 := by
  have : st.list.foldl (fun st b => updateWeightedPosition st b) st = st := by
    rw [← Array.foldl_toList]
    apply foldl_uwp_self
    intro b hb
    obtain ⟨v, hv, e⟩ := hL.inuse b hb
    rw [← e]
    exact hS v hv
  unfold blocksSplit
  simp only [this]


/-- everything that holds of the solver state of a path instance with unit scales between two `satisfy` passes -/
structure PState (st : St) : Prop where
  inv2 : Inv2 st
  cov : Covered st none
  err : st.err = false
  path : IsPathSt st
  unit : UnitSc st
  posw : PosW st
  nn : NonnegLM st
  lmnn : LmNN st

theorem splitLoop_calm {base : St} (P : PState base) (fuel : Nat) :
    ∀ (s : St) (L0 : Array Nat) (al : Bool) (i : Nat), LmOnly base s → LmNN s → s.list = base.list → s.err = false →
      (∀ b ∈ L0.toList, ∃ v, v < base.vs.size ∧ (getV base v).block = b) →
      LmOnly base (splitLoop fuel s L0 al i) ∧ LmNN (splitLoop fuel s L0 al i) ∧ (splitLoop fuel s L0 al i).list = base.list := by
  induction fuel with
  | zero =>
    intro s _ _ _ hs hnn hlist _ _
    rw [splitLoop]
    exact ⟨hs.setErr, hnn, hlist⟩
  | succ fuel ih =>
    intro s L0 al i hs hnn hlist herr huse
    have h2 := P.inv2
    rw [splitLoop_succ]
    split
    · next hi =>
      obtain ⟨v, hv, hvb⟩ := huse L0[i] (by simp)
      generalize L0[i] = b at hvb ⊢
      subst hvb
      have hne : (getB s (getV base v).block).vars ≠ [] := by
        rw [hs.getB]; exact vars_ne_nil_of_inuse base h2.inv v hv
      have e1 := findMinLM_noerr s (h2.inv.of_coreEq hs.core) herr _ hne
      have hl1 : (findMinLM s (getV base v).block).1.list = base.list := (findMinLM_quiet s _).list_eq.trans hlist
      obtain ⟨b1, b2, b3⟩ := findMinLM_block h2 P.posw hs hv e1
      generalize findMinLM s (getV base v).block = fm at e1 hl1 b1 b2 b3 ⊢
      -- a multiplier this call has rewritten is minus a cut sum; the others are as before
      have hnn1 : LmNN fm.1 := by
        intro c
        by_cases hc : (getC base c).active = true ∧ (getV base (getC base c).l).block = (getV base v).block
        · have hcb := FrameAux.active_lt base c hc.1
          rw [lam_eq_neg_bpre h2.inv P.path P.unit hcb hc.1 (fun x hx hxb => b3 x hx (hxb.trans hc.2))]
          exact neg_nonneg.2 (P.nn c hcb hc.1)
        · rw [b2 c hc]
          exact hnn c
      split
      · exact ih fm.1 L0 al (i + 1) b1 hnn1 hl1 e1 huse
      · next ci hm =>
        rw [if_neg (not_lt.2 (lagrangianTolerance_neg.le.trans (hnn1 ci)))]
        exact ih fm.1 L0 al (i + 1) b1 hnn1 hl1 e1 huse
    · exact ⟨hs, hnn, hlist⟩

theorem blocksSplit_calm {st : St} (P : PState st) :
    LmOnly st (blocksSplit st) ∧ LmNN (blocksSplit st) ∧ (blocksSplit st).list = st.list := by
  rw [blocksSplit_eq_splitLoop st P.inv2.list P.inv2.stats]
  exact splitLoop_calm P _ st st.list true 0 (LmOnly.refl st) P.lmnn rfl P.err (fun b hb => P.inv2.list.inuse b hb)

theorem kept_nonnegLM : Kept (fun s => UnitSc s ∧ PosW s ∧ NonnegLM s ∧ LmNN s) where
  mv := fun st hwf ⟨hu, hw, hN, hl⟩ =>
    ⟨hu.of_frame (mostViolated_frame st hwf), hw.of_frame (mostViolated_frame st hwf), hN.of_mv, hl.of_mv⟩
  merge := fun st v h hp hv hact hun hviol ⟨hu, hw, hN, hl⟩ => by
    have hF := (mergeBlocks_inv st v h.inv h.nd hv hact (path_block_ne st v h.inv hp hv hact)).frame
    exact ⟨hu.of_frame hF, hw.of_frame hF, mergeBlocks_nonnegLM st v h hp hu hw hN hv hact hun hviol, hl.of_merge v⟩

theorem satisfy_pstate {st : St} (P : PState st) (sfuel : Nat) (hf : st.vs.size < sfuel) :
    PState (satisfy sfuel st) ∧ Feasible (satisfy sfuel st) ∧ Frame st (satisfy sfuel st) := by
  have h := P.inv2
  have herr := path_satisfy_noerr st h P.cov P.err P.path sfuel hf
  obtain ⟨h2, hcov2, hfe, hF⟩ := satisfy_inv2 sfuel st h P.cov herr
  obtain ⟨hLm, hl, _⟩ := blocksSplit_calm P
  have hF0 : Frame st (blocksSplit st) := hLm.core.toFrame
  obtain ⟨k, e, st0, e0, _, _, _, _, _, _, hN0, hl0⟩ := path_satisfy_eq kept_nonnegLM st h P.cov P.err P.path
    ⟨P.unit.of_frame hF0, P.posw.of_frame hF0, P.nn.of_lmOnly hLm, hl⟩ sfuel hf
  have hN : NonnegLM (satisfy sfuel st) ∧ LmNN (satisfy sfuel st) := by
    rw [e, e0]
    exact ⟨hN0.of_mv, hl0.of_mv⟩
  exact ⟨⟨h2, hcov2, herr, P.path.of_frame hF, P.unit.of_frame hF, P.posw.of_frame hF, hN.1, hN.2⟩, hfe, hF⟩

theorem pstate_multipliers_nonneg {st : St} (P : PState st) :
    (lmState st).err = false ∧ ∀ l ∈ multipliers st, 0 ≤ l := by
  have h := P.inv2
  have herr := lmState_noerr st h.inv h.list P.err
  obtain ⟨hL, hnet⟩ := lmState_spec st h P.posw herr
  refine ⟨herr, ?_⟩
  rw [multipliers_lam st hL]
  intro l hl
  obtain ⟨c, hc, rfl⟩ := List.mem_map.1 hl
  rw [List.mem_range] at hc
  by_cases ha : (getC st c).active = true
  · rw [lam_active ha, lam_eq_neg_bpre h.inv P.path P.unit hc ha (fun x hx _ => hnet x hx)]
    exact neg_nonneg.2 (P.nn c hc ha)
  · rw [lam_inactive (by simpa using ha)]

theorem satisfy_feasible_cost {st : St} (P : PState st) (hfe : Feasible st) (sfuel : Nat) (hf : 0 < sfuel) :
    cost (satisfy sfuel st) = cost st := by
  have h := P.inv2
  obtain ⟨hLm, _, hlist⟩ := blocksSplit_calm P
  have heq := satisfy_eq_iter sfuel st h P.cov P.err 0 hf (fun j hj => absurd hj (Nat.not_lt_zero j))
  rw [satIter, satStart] at heq
  generalize blocksSplit st = s at hLm hlist heq
  have S := mostViolated_spec s
  have hstop : satCond (mostViolated s) = false := by
    unfold satCond
    have h7 := S.choice
    cases hmv : (mostViolated s).2 with
    | none => rfl
    | some v =>
      rw [hmv] at h7
      obtain ⟨hvin, hvu, _, _⟩ := h7
      rw [hLm.core.inactive_eq] at hvin
      have hsl := hfe v (h.inv.wf.inactive_lt v hvin) (by rw [← (hLm.core.flags v).2]; exact hvu)
      simp only
      rw [mostViolated_slack, hLm.slack, decide_eq_false (not_lt.2 hsl), Bool.false_and]
  rw [heq hstop]
  exact cost_congr (S.vs_eq.trans hLm.core.vs_eq) (S.bs_eq.trans hLm.bs_eq) (S.list_eq.trans hlist)

theorem solve_pstate {st : St} (P : PState st) (fuel sfuel : Nat) (hfuel : 2 ≤ fuel) (hf : st.vs.size < sfuel) :
    PState (solve fuel sfuel st).1 ∧ Frame st (solve fuel sfuel st).1 := by
  obtain ⟨f, rfl⟩ : ∃ f, fuel = f + 2 := ⟨fuel - 2, by omega⟩
  obtain ⟨P1, F1, Fr1⟩ := satisfy_pstate P sfuel hf
  unfold solve
  simp only
  rw [solveLoop]
  split
  · obtain ⟨P2, _, Fr2⟩ := satisfy_pstate P1 sfuel (by rw [Fr1.vsize]; exact hf)
    have hcost := satisfy_feasible_cost P1 F1 sfuel (by omega)
    rw [solveLoop, hcost, if_neg (ratAbs_self_sub _)]
    exact ⟨P2, Fr1.trans Fr2⟩
  · exact ⟨P1, Fr1⟩

theorem scale_ne_of_unit {vars : List (Rat × Rat × Rat)} (hsc : ∀ v ∈ vars, v.2.2 = 1) : ∀ v ∈ vars, v.2.2 ≠ 0 :=
  fun v hv => (hsc v hv).symm ▸ one_ne_zero

section Init
variable (vars : List (Rat × Rat × Rat)) (cons : List (Nat × Nat × Rat))
  (hidx : ∀ c ∈ cons, c.1 < vars.length ∧ c.2.1 < vars.length) (hw : ∀ v ∈ vars, 0 < v.2.1) (hsc : ∀ v ∈ vars, v.2.2 = 1)
  (hpath : ∀ c ∈ cons, c.2.1 = c.1 + 1) (hnd : (cons.map (·.1)).Nodup)
include hidx hw hsc hpath hnd

theorem init_pstate : PState (init vars cons) := by
  have hs := scale_ne_of_unit hsc
  obtain ⟨_, _, i3, i4, _, i6, _⟩ := init_inv vars cons hidx hs
  obtain ⟨hI2, hcov⟩ := init_inv2 vars cons hidx hs
  refine ⟨hI2, hcov, i3, init_isPathSt vars cons hidx hs hpath hnd, ?_, ?_, ?_, ?_⟩
  · intro v hv
    rw [i4] at hv
    rw [(i6 v hv).2.2]
    exact hsc _ (List.getElem_mem _)
  · intro v hv
    rw [i4] at hv
    rw [(i6 v hv).2.1]
    exact hw _ (List.getElem_mem _)
  · intro c _ ha
    rw [(FrameAux.init_facts vars cons).2.2.1 c, (FrameAux.init0_getC vars cons c).1] at ha
    cases ha
  · intro c
    rw [(FrameAux.init_facts vars cons).2.2.1 c]
    unfold getC FrameAux.init0
    simp only [Array.getD_eq_getD_getElem?, List.getElem?_toArray, List.getElem?_map]
    cases cons[c]? <;> exact le_refl _

theorem init_satisfy_pstate (sfuel : Nat) (hf : vars.length < sfuel) : PState (satisfy sfuel (init vars cons)) :=
  (satisfy_pstate (init_pstate vars cons hidx hw hsc hpath hnd) sfuel
    ((init_data vars cons hidx (scale_ne_of_unit hsc)).vsize ▸ hf)).1

theorem init_solve_pstate (fuel sfuel : Nat) (hfuel : 2 ≤ fuel) (hf : vars.length < sfuel) :
    PState (solve fuel sfuel (init vars cons)).1 :=
  (solve_pstate (init_pstate vars cons hidx hw hsc hpath hnd) fuel sfuel hfuel
    ((init_data vars cons hidx (scale_ne_of_unit hsc)).vsize ▸ hf)).1

end Init

end Labella.Vpsc
