import Labella.Model.EngineT
import Labella.Proofs.DistributeLemmas
import Mathlib.Data.List.Basic
import Mathlib.Data.List.Nodup
import Mathlib.Data.List.Perm.Basic
/-! # The stub-creation loops of the distributor on `Ref`s, and their closed forms `withStubs` / `simpleLayers`

`stubChainP`, `overlapStubsP`, `simpleStepP` replay the loops of `EngineT.stubChain`, `EngineT.overlapStubs`,
`EngineT.simpleLoop` on the pure side (layers of `Ref`s instead of layers of node ids). -/
namespace Labella.EngineT
open Labella Labella.Layout

def stubChainP (k : Nat) : Nat → List (List Ref) → List (List Ref)
  | 0, L => L
  | j + 1, L => stubChainP k j (L.modify j (· ++ [Ref.stub k j]))

def layerStepP (top : Nat) (acc : List (List Ref)) (r : Ref) : List (List Ref) :=
  if r.isStub then acc else stubChainP r.id top acc

def overlapStubsP : Nat → List (List Ref) → List (List Ref)
  | 0, L => L
  | i + 1, L => overlapStubsP i ((L.getD (i + 1) []).foldl (layerStepP (i + 1)) L)

def simpleStepP (nl : Nat) (acc : List (List Ref)) (p : Nat × Nat) : List (List Ref) :=
  stubChainP p.1 (p.2 % nl) (acc.modify (p.2 % nl) (· ++ [Ref.label p.1]))

/-! ### closed forms -/

theorem stubChainP_getElem? (k : Nat) : ∀ (top : Nat) (Lc : List (List Ref)) (j : Nat),
    (stubChainP k top Lc)[j]? = (Lc[j]?).map (fun l => if j < top then l ++ [Ref.stub k j] else l)
  | 0, Lc, j => by
    rw [stubChainP]
    cases Lc[j]? <;> rfl
  | t + 1, Lc, j => by
    rw [stubChainP, stubChainP_getElem? k t, List.getElem?_modify]
    cases Lc[j]? with
    | none => rfl
    | some l =>
      simp only [Option.map_eq_map, Option.map_some, Option.some.injEq]
      by_cases h : t = j
      · subst h
        rw [if_pos rfl, if_neg (Nat.lt_irrefl t), if_pos (Nat.lt_succ_self t)]
      · rw [if_neg h]
        by_cases h2 : j < t
        · rw [if_pos h2, if_pos (Nat.lt_succ_of_lt h2)]
        · rw [if_neg h2, if_neg (by omega)]

theorem simpleStepP_getElem? (nl : Nat) (acc : List (List Ref)) (p : Nat × Nat) (j : Nat) :
    (simpleStepP nl acc p)[j]? = (acc[j]?).map (fun l => l ++ (simpleSel nl j p).toList) := by
  rw [simpleStepP, stubChainP_getElem?, List.getElem?_modify]
  cases acc[j]? with
  | none => simp
  | some l =>
    simp only [Option.map_eq_map, Option.map_some, Option.some.injEq, simpleSel]
    by_cases h : p.2 % nl = j
    · have : ¬ j < p.2 % nl := by omega
      simp [h]
    · by_cases h2 : j < p.2 % nl
      · simp [h, h2]
      · simp [h, h2]

theorem simpleFold_getElem? (nl : Nat) (j : Nat) : ∀ (pre : List (Nat × Nat)) (acc : List (List Ref)),
    (pre.foldl (simpleStepP nl) acc)[j]? = (acc[j]?).map (fun l => l ++ pre.filterMap (simpleSel nl j))
  | [], acc => by simp
  | p :: pre, acc => by
    rw [List.foldl_cons, simpleFold_getElem? nl j pre, simpleStepP_getElem?]
    cases acc[j]? with
    | none => simp
    | some l =>
      simp only [Option.map_some, Option.some.injEq, List.filterMap_cons, List.append_assoc]
      cases simpleSel nl j p <;> simp

theorem layerFold_getElem? (top j : Nat) : ∀ (rs : List Ref) (acc : List (List Ref)),
    (rs.foldl (layerStepP top) acc)[j]? = (acc[j]?).map (fun l =>
      if j < top then l ++ (rs.filter (fun r => !r.isStub)).map (fun r => Ref.stub r.id j) else l)
  | [], acc => by
    rw [List.foldl_nil]
    cases acc[j]? <;> simp
  | r :: rs, acc => by
    rw [List.foldl_cons, layerFold_getElem? top j rs]
    unfold layerStepP
    by_cases hr : r.isStub = true
    · simp [hr]
    · simp only [hr, Bool.false_eq_true, if_false, stubChainP_getElem?]
      cases acc[j]? with
      | none => simp
      | some l =>
        by_cases hj : j < top
        · simp [hj, hr]
        · simp [hj]

/-- the layers of `overlapStubsP` when its counter is `i`: layer `j` holds its own labels and a stub for each label of the layers after
`max i j` -/
def stubInv (i : Nat) (L : List (List Nat)) : List (List Ref) :=
  L.zipIdx.map (fun p => p.1.map Ref.label ++
    ((L.drop (max (i + 1) (p.2 + 1))).reverse.flatten).map (fun k => Ref.stub k p.2))

theorem stubInv_getElem? (i : Nat) (L : List (List Nat)) (j : Nat) :
    (stubInv i L)[j]? = (L[j]?).map (fun l => l.map Ref.label ++
      ((L.drop (max (i + 1) (j + 1))).reverse.flatten).map (fun k => Ref.stub k j)) := by
  unfold stubInv
  rw [List.getElem?_map, List.getElem?_zipIdx]
  cases L[j]? with
  | none => rfl
  | some l => simp only [Option.map_some, Nat.zero_add]

theorem stubInv_zero (L : List (List Nat)) : stubInv 0 L = withStubs L := by
  apply List.ext_getElem?
  intro j
  rw [stubInv_getElem?, withStubs_getElem?]
  simp only [Nat.max_eq_right (by omega : 0 + 1 ≤ j + 1), stubsFor, List.flatMap_id]

theorem stubInv_last (L : List (List Nat)) : stubInv (L.length - 1) L = L.map (List.map Ref.label) := by
  apply List.ext_getElem?
  intro j
  rw [stubInv_getElem?, List.getElem?_map]
  rw [List.drop_eq_nil_of_le (Nat.le_trans (by omega) (Nat.le_max_left _ _))]
  cases L[j]? with
  | none => rfl
  | some l => simp

theorem drop_reverse_flatten_step (L : List (List Nat)) (i : Nat) :
    (L.drop i).reverse.flatten = (L.drop (i + 1)).reverse.flatten ++ (L[i]?).getD [] := by
  by_cases h : i < L.length
  · rw [List.drop_eq_getElem_cons h, List.reverse_cons, List.flatten_append,
      List.getElem?_eq_getElem h]
    simp
  · have h1 : L.drop i = [] := List.drop_eq_nil_of_le (by omega)
    have h2 : L.drop (i + 1) = [] := List.drop_eq_nil_of_le (by omega)
    have h3 : L[i]? = none := List.getElem?_eq_none (by omega)
    simp [h1, h2, h3]

theorem stubInv_layer (i : Nat) (L : List (List Nat)) :
    (((stubInv (i + 1) L).getD (i + 1) []).filter (fun r => !r.isStub))
      = ((L[i + 1]?).getD []).map Ref.label := by
  rw [List.getD_eq_getElem?_getD, stubInv_getElem?]
  cases L[i + 1]? with
  | none => simp
  | some l =>
    simp only [Option.map_some, Option.getD_some, List.filter_append]
    have h1 : (l.map Ref.label).filter (fun r => !r.isStub) = l.map Ref.label := by
      apply List.filter_eq_self.2
      intro r hr
      obtain ⟨k, _, rfl⟩ := List.mem_map.1 hr
      rfl
    have h2 : ∀ X : List Nat, (X.map (fun k => Ref.stub k (i + 1))).filter (fun r => !r.isStub) = [] := by
      intro X
      apply List.filter_eq_nil_iff.2
      intro r hr
      obtain ⟨k, _, rfl⟩ := List.mem_map.1 hr
      simp [Ref.isStub]
    rw [h1, h2, List.append_nil]

theorem stubInv_step (i : Nat) (L : List (List Nat)) :
    ((stubInv (i + 1) L).getD (i + 1) []).foldl (layerStepP (i + 1)) (stubInv (i + 1) L) = stubInv i L := by
  apply List.ext_getElem?
  intro j
  rw [layerFold_getElem?, stubInv_layer, stubInv_getElem?, stubInv_getElem?]
  cases L[j]? with
  | none => rfl
  | some l =>
    simp only [Option.map_some]
    by_cases hj : j < i + 1
    · -- layers below `i + 1` receive the stubs of the labels of layer `i + 1`
      rw [if_pos hj, Nat.max_eq_left (by omega : j + 1 ≤ i + 1 + 1), Nat.max_eq_left (by omega : j + 1 ≤ i + 1),
        drop_reverse_flatten_step L (i + 1), List.map_append, List.map_map, List.append_assoc]
      rfl
    · rw [if_neg hj, Nat.max_eq_right (by omega : i + 1 + 1 ≤ j + 1), Nat.max_eq_right (by omega : i + 1 ≤ j + 1)]

theorem overlapStubsP_stubInv (L : List (List Nat)) : ∀ i : Nat, overlapStubsP i (stubInv i L) = withStubs L
  | 0 => by rw [overlapStubsP, stubInv_zero]
  | i + 1 => by rw [overlapStubsP, stubInv_step, overlapStubsP_stubInv L i]

theorem overlapStubsP_withStubs (L : List (List Nat)) :
    overlapStubsP (L.length - 1) (L.map (List.map Ref.label)) = withStubs L := by
  rw [← stubInv_last, overlapStubsP_stubInv]

theorem simpleLoopP_simpleLayers (ids : List Nat) (nl : Nat) :
    ids.zipIdx.foldl (simpleStepP nl) (List.replicate nl []) = simpleLayers ids nl := by
  apply List.ext_getElem?
  intro j
  rw [simpleFold_getElem?, simpleLayers_eq, List.getElem?_map]
  by_cases hj : j < nl
  · rw [List.getElem?_range hj, List.getElem?_replicate]
    simp [hj]
  · rw [List.getElem?_eq_none (by simpa using hj), List.getElem?_eq_none (by simpa using hj)]
    rfl

end Labella.EngineT

