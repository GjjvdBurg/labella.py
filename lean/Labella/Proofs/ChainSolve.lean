import Labella.Proofs.ChainLoop
import Mathlib.Tactic.NormNum
import Mathlib.Tactic.Abel
/-! `SepBy` index by index; `Chain.solve` as a whole: optimality of a well-formed block list (Abel summation against the prefix-residual invariant), then
lengths, feasibility, optimality and fixed points of the solver through the shift by the prefix sums of the gaps (helpers for C01/C02/C03) -/
namespace Labella.Chain
open Labella

theorem SepBy_nil_left (e : ℚ) (xs : List ℚ) : SepBy e [] xs := by simp [SepBy]

theorem SepBy_nil_right (e : ℚ) (gs : List ℚ) : SepBy e gs [] := by cases gs <;> simp [SepBy]

theorem SepBy_single (e : ℚ) (gs : List ℚ) (a : ℚ) : SepBy e gs [a] := by cases gs <;> simp [SepBy]

theorem SepBy_getElem? {e : ℚ} : ∀ (gs xs : List ℚ), SepBy e gs xs →
    ∀ (i : ℕ) (g a b : ℚ), gs[i]? = some g → xs[i]? = some a → xs[i + 1]? = some b → g - e ≤ b - a
  | g' :: gs, x :: y :: xs, h, i, g, a, b, h1, h2, h3 => by
    cases i with
    | zero => cases h1; cases h2; cases h3; exact h.1
    | succ i => exact SepBy_getElem? gs (y :: xs) h.2 i g a b h1 h2 h3
  | [], _, _, _, _, _, _, h1, _, _ => by cases h1
  | _ :: _, [], _, _, _, _, _, _, h2, _ => by cases h2
  | _ :: _, [_], _, i, _, _, _, _, _, h3 => by cases i <;> cases h3

theorem SepBy_of_getElem? {e : ℚ} : ∀ (gs xs : List ℚ),
    (∀ (i : ℕ) (g a b : ℚ), gs[i]? = some g → xs[i]? = some a → xs[i + 1]? = some b → g - e ≤ b - a) →
    SepBy e gs xs
  | g :: gs, a :: b :: xs, h =>
    ⟨h 0 g a b rfl rfl rfl, SepBy_of_getElem? gs (b :: xs) fun i g' a' b' h1 h2 h3 => h (i + 1) g' a' b' h1 h2 h3⟩
  | [], _, _ => SepBy_nil_left _ _
  | _ :: _, [], _ => SepBy_nil_right _ _
  | _ :: _, [_], _ => SepBy_single _ _ _

theorem cost_cons (v : Item) (vs : List Item) (x : ℚ) (xs : List ℚ) :
    cost (v :: vs) (x :: xs) = v.w * (x - v.t) * (x - v.t) + cost vs xs := by
  simp [cost]

theorem cost_append (a b : List Item) (ya yb : List ℚ) (h : ya.length = a.length) :
    cost (a ++ b) (ya ++ yb) = cost a ya + cost b yb := by
  simp only [cost]
  rw [List.zip_append (by omega)]
  simp

theorem wdist_append (a b : List Item) (ya yb za zb : List ℚ) (h1 : ya.length = a.length)
    (h2 : za.length = a.length) :
    wdist (a ++ b) (ya ++ yb) (za ++ zb) = wdist a ya za + wdist b yb zb := by
  simp only [wdist]
  rw [List.zip_append (l₁ := ya) (by omega), List.zip_append (by simp; omega)]
  simp

theorem cost_nonneg {vars : List Item} (hw : ∀ v ∈ vars, 0 ≤ v.w) (xs : List ℚ) :
    0 ≤ cost vars xs := by
  apply List.sum_nonneg
  intro t ht
  obtain ⟨p, hp, rfl⟩ := List.mem_map.mp ht
  rw [mul_assoc]
  exact mul_nonneg (hw _ (List.of_mem_zip hp).1) (mul_self_nonneg _)

theorem wdist_nonneg {vars : List Item} (hw : ∀ v ∈ vars, 0 ≤ v.w) (xs zs : List ℚ) :
    0 ≤ wdist vars xs zs := by
  apply List.sum_nonneg
  intro t ht
  obtain ⟨p, hp, rfl⟩ := List.mem_map.mp ht
  rw [mul_assoc]
  exact mul_nonneg (hw _ (List.of_mem_zip hp).1) (mul_self_nonneg _)

theorem cost_self (vs : List Item) : cost vs (vs.map (·.t)) = 0 := by
  induction vs with
  | nil => rfl
  | cons v vs ih => rw [List.map_cons, cost_cons, ih, sub_self, mul_zero, zero_add]

theorem cost_getElem_le {vars : List Item} (hw : ∀ v ∈ vars, 0 ≤ v.w) {xs : List ℚ} {i : ℕ} {v : Item} {x : ℚ}
    (hv : vars[i]? = some v) (hx : xs[i]? = some x) : v.w * (x - v.t) * (x - v.t) ≤ cost vars xs := by
  refine List.single_le_sum (fun t ht => ?_) _ (List.mem_map.2 ⟨(v, x), ?_, rfl⟩)
  · obtain ⟨p, hp, rfl⟩ := List.mem_map.1 ht
    rw [mul_assoc]
    exact mul_nonneg (hw _ (List.of_mem_zip hp).1) (mul_self_nonneg _)
  · exact List.mem_iff_getElem?.2 ⟨i, List.getElem?_zip_eq_some.2 ⟨hv, hx⟩⟩

theorem expand_cons (b : Block) (bs : List Block) :
    expand (b :: bs) = (b.map fun _ => b.mean) ++ expand bs := by
  simp [expand]

/-- for `z ≤ z₁ ≤ z₂ ≤ …` and a carry `c` that is `≤ 0` together with every prefix sum of the `rᵢ`, and `0` together with all
of them: `0 ≤ c·z + Σ zᵢ rᵢ` -/
theorem abel (zs rs : List ℚ) (hlen : zs.length = rs.length) (z c : ℚ) (hz : (z :: zs).Pairwise (· ≤ ·))
    (hpre : ∀ k, c + (rs.take k).sum ≤ 0) (htot : c + rs.sum = 0) :
    0 ≤ c * z + ((zs.zip rs).map fun p => p.1 * p.2).sum := by
  induction zs generalizing rs z c with
  | nil =>
    obtain rfl : rs = [] := List.eq_nil_of_length_eq_zero hlen.symm
    have : c = 0 := by simpa using htot
    simp [this]
  | cons z1 zs ih =>
    cases rs with
    | nil => simp at hlen
    | cons r rs =>
      obtain ⟨hz1, hz'⟩ := List.pairwise_cons.1 hz
      have hc : c ≤ 0 := by simpa using hpre 0
      have h1 : c * z1 ≤ c * z := mul_le_mul_of_nonpos_left (hz1 z1 List.mem_cons_self) hc
      have := ih rs (Nat.succ.inj hlen) z1 (c + r) hz'
        (fun k => by rw [add_assoc, ← List.sum_cons, ← List.take_succ_cons]; exact hpre (k + 1))
        (by rw [add_assoc, ← List.sum_cons]; exact htot)
      simp only [List.zip_cons_cons, List.map_cons, List.sum_cons]
      linarith

theorem abel0 (zs rs : List ℚ) (hlen : zs.length = rs.length) (hz : zs.Pairwise (· ≤ ·))
    (hpre : ∀ k, (rs.take k).sum ≤ 0) (htot : rs.sum = 0) :
    0 ≤ ((zs.zip rs).map fun p => p.1 * p.2).sum := by
  cases zs with
  | nil => simp
  | cons z zs =>
    have hz' : (z :: z :: zs).Pairwise (· ≤ ·) :=
      List.pairwise_cons.2 ⟨fun a ha => (List.mem_cons.1 ha).elim (fun e => e ▸ le_refl z) ((List.pairwise_cons.1 hz).1 a), hz⟩
    simpa using abel (z :: zs) rs hlen z 0 hz' (by simpa using hpre) (by simpa using htot)

theorem cost_split (m : ℚ) (b : Block) (zs : List ℚ) (hlen : zs.length = b.length) :
    cost b zs = cost b (b.map fun _ => m) + wdist b (b.map fun _ => m) zs
      + 2 * ((zs.zip (b.map (resid m))).map fun p => p.1 * p.2).sum - 2 * m * residSum m b := by
  induction b generalizing zs with
  | nil => simp [cost, wdist, residSum]
  | cons i b ih =>
    cases zs with
    | nil => simp at hlen
    | cons z zs =>
      have := ih zs (by simpa using hlen)
      simp only [cost, wdist, residSum, List.zip_cons_cons, List.map_cons, List.sum_cons] at *
      rw [this]; simp only [resid]; ring

theorem block_optimal {b : Block} (hb : b ≠ []) (hw : PosW b) (pm : PM b)
    (zs : List ℚ) (hlen : zs.length = b.length) (hz : zs.Pairwise (· ≤ ·)) :
    cost b (b.map fun _ => b.mean) + wdist b (b.map fun _ => b.mean) zs ≤ cost b zs := by
  have h0 : residSum b.mean b = 0 := residSum_mean hb hw
  have := abel0 zs (b.map (resid b.mean)) (by simpa using hlen) hz
    (fun k => by simpa [residSum, List.map_take] using pm k) h0
  rw [cost_split b.mean b zs hlen, h0]
  linarith

theorem chain_optimal {bs : List Block} (hwf : WF bs) (zs : List ℚ)
    (hlen : zs.length = bs.flatten.length) (hz : zs.Pairwise (· ≤ ·)) :
    cost bs.flatten (expand bs) + wdist bs.flatten (expand bs) zs ≤ cost bs.flatten zs := by
  induction bs generalizing zs with
  | nil => simp [cost, wdist, expand]
  | cons b bs ih =>
    obtain ⟨⟨hb, hw, pm⟩, hwf'⟩ := WF_cons.1 hwf
    rw [List.flatten_cons, List.length_append] at hlen
    obtain ⟨za, zb, rfl, hla⟩ : ∃ za zb, zs = za ++ zb ∧ za.length = b.length :=
      ⟨zs.take b.length, zs.drop b.length, (List.take_append_drop _ _).symm, by rw [List.length_take]; omega⟩
    obtain ⟨hza, hzb, -⟩ := List.pairwise_append.1 hz
    have h1 := block_optimal hb hw pm za hla hza
    have h2 := ih hwf' zb (by rw [List.length_append] at hlen; omega) hzb
    rw [List.flatten_cons, expand_cons, cost_append _ _ _ _ (by simp), cost_append _ _ _ _ hla,
      wdist_append _ _ _ _ _ _ (by simp) hla]
    linarith

def shiftItem (v : Item) (g : ℚ) : Item := { w := v.w, t := v.t - g }

def shifted (vars : List Item) (G : List ℚ) : List Item := List.zipWith shiftItem vars G

def singles (l : List Item) : List Block := l.map (fun i => [i])

theorem solve_eq (eps : ℚ) (vars : List Item) (gaps : List ℚ) :
    solve eps vars gaps =
      List.zipWith (· + ·)
        (expand (satisfy eps (shifted vars (prefixSums 0 gaps)).length
          (singles (shifted vars (prefixSums 0 gaps))))) (prefixSums 0 gaps) := rfl

theorem prefixSums_length (acc : ℚ) (gs : List ℚ) : (prefixSums acc gs).length = gs.length + 1 := by
  induction gs generalizing acc with
  | nil => simp [prefixSums]
  | cons g gs ih => simp [prefixSums, ih]

theorem prefixSums_head (acc : ℚ) (gs : List ℚ) : ∃ t, prefixSums acc gs = acc :: t := by
  cases gs with
  | nil => exact ⟨[], rfl⟩
  | cons g gs => exact ⟨prefixSums (acc + g) gs, rfl⟩

theorem shifted_length (vars : List Item) (G : List ℚ) :
    (shifted vars G).length = min vars.length G.length := by
  simp [shifted]

theorem expand_length (bs : List Block) : (expand bs).length = bs.flatten.length := by
  induction bs with
  | nil => simp [expand]
  | cons b bs ih => rw [expand_cons]; simp [ih]

theorem singles_flatten (l : List Item) : (singles l).flatten = l := by
  rw [singles, ← List.flatMap_def]; exact List.flatMap_singleton' l

theorem singles_length (l : List Item) : (singles l).length = l.length := by simp [singles]

theorem single_mean {i : Item} (hw : 0 < i.w) : Block.mean [i] = i.t := by
  have : i.w ≠ 0 := ne_of_gt hw
  simp only [Block.mean, Block.sumWT, Block.sumW, List.map_cons, List.map_nil, List.sum_cons,
    List.sum_nil, add_zero]
  field_simp

theorem WF_singles {l : List Item} (hw : ∀ i ∈ l, 0 < i.w) : WF (singles l) := by
  intro b hb
  simp only [singles, List.mem_map] at hb
  obtain ⟨i, hi, rfl⟩ := hb
  have hpos : PosW [i] := by
    intro j hj
    simp only [List.mem_singleton] at hj
    subst hj; exact hw _ hi
  refine ⟨by simp, hpos, ?_⟩
  intro k
  cases k with
  | zero => simp [residSum]
  | succ k =>
    have : [i].take (k + 1) = [i] := by simp
    rw [this, residSum_mean (by simp) hpos]

theorem shifted_pos {vars : List Item} (hw : ∀ v ∈ vars, 0 < v.w) (G : List ℚ) :
    ∀ i ∈ shifted vars G, 0 < i.w := by
  intro i hi
  rw [shifted, ← List.map_uncurry_zip_eq_zipWith] at hi
  obtain ⟨p, hp, rfl⟩ := List.mem_map.1 hi
  exact hw p.1 (List.of_mem_zip hp).1

theorem solve_length' (eps : ℚ) (vars : List Item) (gaps : List ℚ)
    (hlen : gaps.length + 1 = vars.length) : (solve eps vars gaps).length = vars.length := by
  rw [solve_eq, List.length_zipWith, expand_length, satisfy_flatten, singles_flatten,
    shifted_length, prefixSums_length]
  omega

/-- consecutive differences are at least `-e` -/
def StepGe (e : ℚ) : List ℚ → Prop
  | a :: b :: l => -e ≤ b - a ∧ StepGe e (b :: l)
  | _ => True

theorem pairwise_of_StepGe {l : List ℚ} (h : StepGe 0 l) : l.Pairwise (· ≤ ·) := by
  induction l with
  | nil => exact List.Pairwise.nil
  | cons a l ih =>
    cases l with
    | nil => exact List.pairwise_singleton _ _
    | cons b l =>
      have hab : a ≤ b := by linarith [h.1]
      have hb := ih h.2
      exact List.pairwise_cons.2 ⟨fun c hc => (List.mem_cons.1 hc).elim (fun e => e ▸ hab)
        fun hc => hab.trans ((List.pairwise_cons.1 hb).1 c hc), hb⟩

theorem StepGe_replicate_append {e : ℚ} (he : 0 ≤ e) (m : ℚ) (k : ℕ) {l : List ℚ}
    (hl : StepGe e l) (hh : ∀ h ∈ l.head?, -e ≤ h - m) :
    StepGe e (List.replicate k m ++ l) := by
  induction k with
  | zero => simpa using hl
  | succ k ih =>
    cases k with
    | zero =>
      cases l with
      | nil => simp [StepGe]
      | cons h l =>
        show StepGe e (m :: h :: l)
        exact ⟨hh h (by simp), hl⟩
    | succ k =>
      rw [List.replicate_succ, List.cons_append]
      rw [List.replicate_succ, List.cons_append] at ih ⊢
      simp only [StepGe]
      exact ⟨by rw [sub_self]; exact neg_nonpos.2 he, ih⟩

theorem expand_head {b : Block} (hb : b ≠ []) (bs : List Block) :
    (expand (b :: bs)).head? = some b.mean := by
  rw [expand_cons]
  cases b with
  | nil => exact absurd rfl hb
  | cons i b => simp

theorem expand_StepGe {e : ℚ} (he : 0 ≤ e) {bs : List Block} (hne : ∀ b ∈ bs, b ≠ [])
    (hs : ∀ s ∈ slacks bs, -e ≤ s) : StepGe e (expand bs) := by
  induction bs with
  | nil => simp [expand, StepGe]
  | cons a rest ih =>
    rw [expand_cons, List.map_const']
    have hne' : ∀ b ∈ rest, b ≠ [] := fun b hb => hne b (by simp [hb])
    cases rest with
    | nil =>
      apply StepGe_replicate_append he
      · simp [expand, StepGe]
      · simp [expand]
    | cons b rest' =>
      obtain ⟨hab, hs'⟩ := List.forall_mem_cons.1 (show ∀ s ∈ (b.mean - a.mean) :: slacks (b :: rest'), -e ≤ s from hs)
      apply StepGe_replicate_append he
      · exact ih hne' hs'
      · rw [expand_head (hne' b List.mem_cons_self)]
        intro h hh
        cases hh
        exact hab

theorem SepBy_of_StepGe {e : ℚ} (gs : List ℚ) (acc : ℚ) (ys : List ℚ) (h : StepGe e ys) :
    SepBy e gs (List.zipWith (· + ·) ys (prefixSums acc gs)) := by
  induction gs generalizing acc ys with
  | nil => simp [SepBy]
  | cons g gs ih =>
    cases ys with
    | nil => simp [SepBy]
    | cons a ys =>
      cases ys with
      | nil => simp [SepBy, prefixSums]
      | cons b ys =>
        have ih' := ih (acc + g) (b :: ys) h.2
        obtain ⟨t, ht⟩ := prefixSums_head (acc + g) gs
        simp only [prefixSums, ht, List.zipWith_cons_cons, SepBy] at ih' ⊢
        refine ⟨?_, ih'⟩
        have := h.1
        linarith only [this]

theorem StepGe_of_SepBy (gs : List ℚ) (acc : ℚ) (ys : List ℚ) (hlen : ys.length = gs.length + 1)
    (h : SepBy 0 gs (List.zipWith (· + ·) ys (prefixSums acc gs))) : StepGe 0 ys := by
  induction gs generalizing acc ys with
  | nil =>
    cases ys with
    | nil => trivial
    | cons a ys =>
      cases ys with
      | nil => trivial
      | cons b ys => simp at hlen
  | cons g gs ih =>
    cases ys with
    | nil => trivial
    | cons a ys =>
      cases ys with
      | nil => trivial
      | cons b ys =>
        obtain ⟨t, ht⟩ := prefixSums_head (acc + g) gs
        have ih' := ih (acc + g) (b :: ys) (by simpa using hlen)
        simp only [prefixSums, ht, List.zipWith_cons_cons, SepBy, StepGe] at ih' h ⊢
        refine ⟨?_, ih' h.2⟩
        have := h.1
        linarith only [this]

theorem solve_feasible' (eps : ℚ) (heps : 0 ≤ eps) (vars : List Item) (gaps : List ℚ)
    (hw : ∀ v ∈ vars, 0 < v.w) : SepBy eps gaps (solve eps vars gaps) := by
  rw [solve_eq]
  apply SepBy_of_StepGe
  have hwf := satisfy_WF heps (shifted vars (prefixSums 0 gaps)).length
    (WF_singles (shifted_pos hw (prefixSums 0 gaps)))
  apply expand_StepGe heps (fun b hb => (hwf b hb).1)
  apply satisfy_feasible
  rw [singles_length]; omega

theorem cost_shift : ∀ (vars : List Item) (G ys : List ℚ),
    cost vars (List.zipWith (· + ·) ys G) = cost (shifted vars G) ys
  | v :: vars, g :: G, y :: ys => by
    have := cost_shift vars G ys
    simp only [shifted, List.zipWith_cons_cons, cost_cons, shiftItem] at this ⊢
    rw [this]; ring
  | [], _, _ | _ :: _, [], _ | _ :: _, _ :: _, [] => by simp [cost, shifted]

theorem wdist_shift : ∀ (vars : List Item) (G ys zs : List ℚ),
    wdist vars (List.zipWith (· + ·) ys G) (List.zipWith (· + ·) zs G) = wdist (shifted vars G) ys zs
  | v :: vars, g :: G, y :: ys, z :: zs => by
    have := wdist_shift vars G ys zs
    simp only [wdist, shifted, List.zipWith_cons_cons, List.zip_cons_cons, List.map_cons, List.sum_cons,
      shiftItem] at this ⊢
    rw [this]; ring
  | [], _, _, _ | _ :: _, [], _, _ | _ :: _, _ :: _, [], _ | _ :: _, _ :: _, _ :: _, [] => by
    simp [wdist, shifted]

theorem exists_unshift (zs G : List ℚ) (h : zs.length ≤ G.length) :
    ∃ z', z'.length = zs.length ∧ zs = List.zipWith (· + ·) z' G := by
  induction zs generalizing G with
  | nil => exact ⟨[], rfl, by simp⟩
  | cons z zs ih =>
    cases G with
    | nil => simp at h
    | cons g G =>
      obtain ⟨z', h1, h2⟩ := ih G (by simpa using h)
      refine ⟨(z - g) :: z', by simp [h1], ?_⟩
      simp only [List.zipWith_cons_cons, sub_add_cancel]
      rw [← h2]

theorem solve_optimal' (eps : ℚ) (heps : 0 ≤ eps) (vars : List Item) (gaps : List ℚ)
    (hlen : gaps.length + 1 = vars.length) (hw : ∀ v ∈ vars, 0 < v.w)
    (zs : List ℚ) (hz : zs.length = vars.length) (hfeas : SepBy 0 gaps zs) :
    cost vars (solve eps vars gaps) + wdist vars (solve eps vars gaps) zs ≤ cost vars zs := by
  have hG := prefixSums_length 0 gaps
  obtain ⟨z', hz'len, rfl⟩ := exists_unshift zs (prefixSums 0 gaps) (by omega)
  have hnd := pairwise_of_StepGe (StepGe_of_SepBy gaps 0 z' (by omega) hfeas)
  have hflat := (satisfy_flatten eps (shifted vars (prefixSums 0 gaps)).length
    (singles (shifted vars (prefixSums 0 gaps)))).trans (singles_flatten _)
  have := chain_optimal (satisfy_WF heps _ (WF_singles (shifted_pos hw _))) z'
    (by rw [hflat, shifted_length]; omega) hnd
  rw [hflat] at this
  rwa [solve_eq, cost_shift, wdist_shift, cost_shift]

theorem satisfy_fix {eps : ℚ} (fuel : ℕ) {bs : List Block} (h : ∀ s ∈ slacks bs, -eps ≤ s) :
    satisfy eps fuel bs = bs := by
  cases fuel with
  | zero => rfl
  | succ fuel =>
    simp only [satisfy]
    cases ha : argmin (slacks bs) with
    | none => rfl
    | some p =>
      obtain ⟨k, s⟩ := p
      have hs : s ∈ slacks bs := List.mem_of_getElem? (argmin_spec ha).1
      have := h s hs
      simp only
      rw [if_neg (by linarith only [this])]

theorem slacks_singles {l : List Item} (hw : ∀ i ∈ l, 0 < i.w) {e : ℚ}
    (h : StepGe e (l.map (·.t))) : ∀ s ∈ slacks (singles l), -e ≤ s := by
  induction l with
  | nil => simp [singles, slacks]
  | cons a l ih =>
    cases l with
    | nil => simp [singles, slacks]
    | cons b l =>
      intro s hs
      simp only [singles, List.map_cons, slacks, List.mem_cons] at hs
      rcases hs with rfl | hs
      · rw [single_mean (hw a (by simp)), single_mean (hw b (by simp))]
        exact h.1
      · exact ih (fun i hi => hw i (by simp [hi])) h.2 s hs

theorem expand_singles {l : List Item} (hw : ∀ i ∈ l, 0 < i.w) :
    expand (singles l) = l.map (·.t) := by
  induction l with
  | nil => simp [singles, expand]
  | cons a l ih =>
    have := ih (fun i hi => hw i (by simp [hi]))
    simp only [singles, List.map_cons] at *
    rw [expand_cons, this, single_mean (hw a (by simp))]
    rfl

theorem shifted_targets (vars : List Item) (G : List ℚ) (h : vars.length ≤ G.length) :
    List.zipWith (· + ·) ((shifted vars G).map (·.t)) G = vars.map (·.t) := by
  induction vars generalizing G with
  | nil => simp [shifted]
  | cons v vars ih =>
    cases G with
    | nil => simp at h
    | cons g G =>
      have := ih G (by simpa using h)
      simp only [shifted, List.zipWith_cons_cons, List.map_cons, shiftItem, sub_add_cancel] at *
      rw [this]

theorem solve_room_not_moved' (eps : ℚ) (heps : 0 ≤ eps) (vars : List Item) (gaps : List ℚ)
    (hlen : gaps.length + 1 = vars.length) (hw : ∀ v ∈ vars, 0 < v.w)
    (hroom : SepBy 0 gaps (vars.map (·.t))) :
    solve eps vars gaps = vars.map (·.t) := by
  have hG := prefixSums_length 0 gaps
  have hpos := shifted_pos hw (prefixSums 0 gaps)
  have htg := shifted_targets vars (prefixSums 0 gaps) (by omega)
  have hstep : StepGe 0 ((shifted vars (prefixSums 0 gaps)).map (·.t)) := by
    apply StepGe_of_SepBy gaps 0
    · rw [List.length_map, shifted_length]; omega
    · rw [htg]; exact hroom
  rw [solve_eq, satisfy_fix _ fun s hs => ?_, expand_singles hpos, htg]
  linarith only [slacks_singles hpos hstep s hs, heps]

end Labella.Chain
