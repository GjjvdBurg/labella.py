import Labella.Proofs.VpscList
import Mathlib.Data.List.Nodup
import Mathlib.Algebra.BigOperators.Group.List.Basic
/-! # `Vpsc.cost` (summed block by block over the block list) is the sum over all variables

With `ListInv` (the list enumerates the in-use blocks once), `Inv.members` and `VarsNodup` (the `vars` lists partition the
variables) the concatenation of the `vars` lists of the listed blocks is a permutation of `0 … n-1`. -/
namespace Labella.Vpsc

theorem cost_congr {st s : St} (hvs : s.vs = st.vs) (hbs : s.bs = st.bs) (hlist : s.list = st.list) : cost s = cost st := by
  unfold cost position getV getB
  rw [hvs, hbs, hlist]

theorem sum_map_sum_eq_flatMap {α β : Type} (l : List α) (f : α → List β) (g : β → Rat) :
    (l.map (fun b => ((f b).map g).sum)).sum = ((l.flatMap f).map g).sum := by
  induction l with
  | nil => simp
  | cons a t ih => simp [List.flatMap_cons, ih]

def allVars (st : St) : List Nat := st.list.toList.flatMap (fun b => (getB st b).vars)

theorem mem_allVars (st : St) (hinv : Inv st) (hL : ListInv st) (i : Nat) : i ∈ allVars st ↔ i < st.vs.size := by
  unfold allVars
  rw [List.mem_flatMap]
  constructor
  · rintro ⟨b, hb, hi⟩
    obtain ⟨v, hv, e⟩ := hL.inuse b hb
    rw [← e] at hi
    exact ((hinv.members v hv i).1 hi).1
  · intro hi
    exact ⟨_, hL.covers i hi, (hinv.members i hi i).2 ⟨hi, rfl⟩⟩

theorem nodup_allVars (st : St) (hinv : Inv st) (hnd : VarsNodup st) (hL : ListInv st) : (allVars st).Nodup := by
  unfold allVars
  rw [List.nodup_flatMap]
  constructor
  · intro b hb
    obtain ⟨v, hv, e⟩ := hL.inuse b hb
    rw [← e]; exact hnd v hv
  · refine List.Pairwise.imp_of_mem ?_ hL.nodup
    intro a b ha hb hne
    show List.Disjoint _ _
    intro i hia hib
    obtain ⟨v, hv, e⟩ := hL.inuse a ha
    obtain ⟨w, hw, e'⟩ := hL.inuse b hb
    rw [← e] at hia
    rw [← e'] at hib
    have h1 := ((hinv.members v hv i).1 hia).2
    have h2 := ((hinv.members w hw i).1 hib).2
    exact hne (e.symm.trans (h1.symm.trans (h2.trans e')))

theorem allVars_perm (st : St) (hinv : Inv st) (hnd : VarsNodup st) (hL : ListInv st) :
    (allVars st).Perm (List.range st.vs.size) := by
  rw [List.perm_ext_iff_of_nodup (nodup_allVars st hinv hnd hL) List.nodup_range]
  intro i
  rw [mem_allVars st hinv hL, List.mem_range]

/-- `Block.cost` summed over `Blocks._list` is the weighted squared displacement summed over all variables -/
theorem cost_eq_range (st : St) (hinv : Inv st) (hnd : VarsNodup st) (hL : ListInv st) :
    cost st = ((List.range st.vs.size).map (fun i =>
      (position st i - (getV st i).d) * (position st i - (getV st i).d) * (getV st i).w)).sum := by
  unfold cost
  rw [sum_map_sum_eq_flatMap]
  exact ((allVars_perm st hinv hnd hL).map _).sum_eq

end Labella.Vpsc
