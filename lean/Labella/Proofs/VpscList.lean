import Labella.Proofs.VpscSplitStats
/-! # `ListInv` and `StatsInv`, operation by operation

* `Blocks.merge` (`mergeBlocks_list_stats`): the emptied block leaves the list, the statistics of the surviving block absorb the
  moved variables;
* `init`: one pass of the loop of `initBlocks` is `newBlock` (an empty block object and one placement: `Steps`) followed by the entry
  in the list and the `ind` field (`StatEq`); every block lists a single variable, so `Steps.back`, with every block counted as new,
  keeps the statistics of all blocks exact. -/
namespace Labella.Vpsc

/-! ## `Blocks.merge` -/

theorem mstep_getB_ne (sb : Nat) (d : Rat) (s : St) (i k : Nat) (hk : k ≠ sb) : getB (mstep sb d s i) k = getB s k := by
  unfold mstep
  rw [getB_addVariable_ne _ _ _ _ hk, getB_setV]

theorem mstep_ind (sb : Nat) (d : Rat) (s : St) (i k : Nat) : (getB (mstep sb d s i) k).ind = (getB s k).ind := by
  by_cases hk : k = sb
  · subst hk
    unfold mstep addVariable
    simp only [getB_setB, getB_setV, setV_bs]
    split <;> rfl
  · rw [mstep_getB_ne _ _ _ _ _ hk]

theorem foldl_mstep_getB_ne (sb : Nat) (d : Rat) (l : List Nat) (k : Nat) (hk : k ≠ sb) :
    ∀ s : St, getB (l.foldl (mstep sb d) s) k = getB s k := by
  induction l with
  | nil => intro s; rfl
  | cons a t ih => intro s; rw [List.foldl_cons, ih, mstep_getB_ne _ _ _ _ _ hk]

theorem foldl_mstep_ind (sb : Nat) (d : Rat) (l : List Nat) (k : Nat) :
    ∀ s : St, (getB (l.foldl (mstep sb d) s) k).ind = (getB s k).ind := by
  induction l with
  | nil => intro s; rfl
  | cons a t ih => intro s; rw [List.foldl_cons, ih, mstep_ind]

theorem mstep_statsB (sb : Nat) (d : Rat) (s : St) (i : Nat) (hsb : sb < s.bs.size) (hi : i ∉ (getB s sb).vars)
    (h : StatsB s sb) : StatsB (mstep sb d s i) sb := by
  unfold mstep
  apply addVariable_statsB
  · simpa using hsb
  · rw [getB_setV]; exact hi
  · exact setV_statsB _ _ _ _ hi h

theorem foldl_mstep_statsB (sb : Nat) (d : Rat) (l : List Nat) : ∀ s : St, sb < s.bs.size → l.Nodup →
    (∀ i ∈ l, i ∉ (getB s sb).vars) → StatsB s sb → StatsB (l.foldl (mstep sb d) s) sb := by
  induction l with
  | nil => intro s _ _ _ h; exact h
  | cons a t ih =>
    intro s hsb hnd hdis h
    rw [List.foldl_cons]
    obtain ⟨hat, ht⟩ := List.nodup_cons.1 hnd
    apply ih
    · rw [mstep_bs_size]; exact hsb
    · exact ht
    · intro i hi
      rw [vars_mstep, if_pos ⟨rfl, hsb⟩, List.mem_append, List.mem_singleton]
      rintro (h1 | h1)
      · exact hdis i (List.mem_cons_of_mem _ hi) h1
      · subst h1; exact hat hi
    · exact mstep_statsB sb d s a hsb (hdis a List.mem_cons_self) h

theorem mergeAcross_blocks (st : St) (sb b ci : Nat) (d : Rat) (hsb : sb < st.bs.size)
    (hnd : (getB st b).vars.Nodup) (hdis : ∀ i ∈ (getB st b).vars, i ∉ (getB st sb).vars) (h : StatsB st sb) :
    (mergeAcross st sb b ci d).list = st.list ∧
    (∀ k, k ≠ sb → getB (mergeAcross st sb b ci d) k = getB st k) ∧
    (∀ k, (getB (mergeAcross st sb b ci d) k).ind = (getB st k).ind) ∧
    StatsB (mergeAcross st sb b ci d) sb := by
  rw [mergeAcross_eq]
  simp only
  generalize hs1 : setC st ci { getC st ci with active := true } = s1
  have hB1 : ∀ k, getB s1 k = getB st k := fun k => by rw [← hs1]; rfl
  have hsb1 : sb < s1.bs.size := by rw [← hs1]; exact hsb
  have h1 : StatsB s1 sb := by
    refine StatsB.congr (st := st) (b := sb) ?_ (fun i _ => ?_) h
    · rw [hB1]; exact BSame.rfl' _
    · rw [← hs1]; exact VSame.rfl' _
  have h2 := foldl_mstep_statsB sb d (getB st b).vars s1 hsb1 hnd (fun i hi => by rw [hB1]; exact hdis i hi) h1
  obtain ⟨_, f2, _, _, _, f6⟩ := foldl_mstep_fields sb d (getB st b).vars s1
  have g1 := fun k hk => foldl_mstep_getB_ne sb d (getB st b).vars k hk s1
  have g2 := fun k => foldl_mstep_ind sb d (getB st b).vars k s1
  generalize (getB st b).vars.foldl (mstep sb d) s1 = s2 at h2 f2 f6 g1 g2 ⊢
  refine ⟨?_, ?_, ?_, ?_⟩
  · rw [setB_list, f2, ← hs1]; rfl
  · intro k hk
    rw [getB_setB, if_neg (fun hh => hk hh.1), g1 k hk, hB1]
  · intro k
    rw [getB_setB]
    split
    · next hh => rw [← hB1, ← g2, hh.1]
    · rw [g2, hB1]
  · refine StatsB.congr (st := s2) (b := sb) ?_ (fun i _ => VSame.rfl' _) h2
    rw [getB_setB, if_pos ⟨rfl, by rw [f6]; exact hsb1⟩]
    exact ⟨rfl, rfl, rfl, rfl, rfl, h2.2.2.2.2.symm⟩


theorem MergeCtx.across_blocks {st st' : St} {sb b ci : Nat} {d : Rat} {x y : Nat} (M : MergeCtx st st' sb b ci d x y)
    (hnd : VarsNodup st) (hs : StatsInv st) :
    (mergeAcross st sb b ci d).list = st.list ∧
    (∀ k, k ≠ sb → getB (mergeAcross st sb b ci d) k = getB st k) ∧
    (∀ k, (getB (mergeAcross st sb b ci d) k).ind = (getB st k).ind) ∧
    StatsB (mergeAcross st sb b ci d) sb := by
  refine mergeAcross_blocks st sb b ci d ?_ ?_ (fun i hi hi' => ?_) ?_
  · rw [← M.hxs]; exact M.inv.wf.block_lt x M.hx
  · have := hnd y M.hy; rwa [M.hyb] at this
  · exact M.hne (((M.mem_vars_sb i).1 hi').2.symm.trans ((M.mem_vars_b i).1 hi).2)
  · have := hs x M.hx; rwa [M.hxs] at this

theorem mergeBlocks_list_stats (st : St) (ci : Nat) (hinv : Inv st) (hnd : VarsNodup st) (hci : ci < st.cs.size)
    (ha : (getC st ci).active = false)
    (hb : (getV st (getC st ci).l).block ≠ (getV st (getC st ci).r).block)
    (hl : ListInv st) (hs : StatsInv st) : ListInv (mergeBlocks st ci) ∧ StatsInv (mergeBlocks st ci) := by
  obtain ⟨sb, b, d, x, y, e, M⟩ := mergeBlocks_ctx st ci hinv hnd hci ha hb
  rw [e]
  obtain ⟨m1, m2, m3, m4⟩ := M.across_blocks hnd hs
  generalize mergeAcross st sb b ci d = st' at M m1 m2 m3 m4 ⊢
  constructor
  ·
    apply removeBlock_listInv
    · intro k hk
      rw [m1] at hk ⊢
      rw [m3]
      exact hl.indOK k hk
    · rw [m1, ← M.hyb]; exact hl.covers y M.hy
    · intro z hz
      rw [m1] at hz
      obtain ⟨v, hv, ev⟩ := hl.inuse z hz
      rw [M.bsize, ← ev]
      exact hinv.wf.block_lt v hv
    · intro v hv
      rw [M.vsize] at hv
      rw [M.blk, m1]
      split
      · exact ⟨by rw [← M.hxs]; exact hl.covers x M.hx, M.hne⟩
      · next hh => exact ⟨hl.covers v hv, fun h2 => hh ⟨hv, h2⟩⟩
    · intro z hz hzb
      rw [m1] at hz
      obtain ⟨v, hv, ev⟩ := hl.inuse z hz
      refine ⟨v, by rw [M.vsize]; exact hv, ?_⟩
      rw [M.blk, if_neg]
      · exact ev
      · rintro ⟨_, h2⟩; exact hzb (ev.symm.trans h2)
  ·
    apply StatsInv.of_statEq (removeBlock_statEq st' b)
    intro v hv
    rw [M.vsize] at hv
    by_cases hvs : (getV st' v).block = sb
    · rw [hvs]; exact m4
    · have hnb : ¬ (v < st.vs.size ∧ (getV st v).block = b) := fun hh => hvs (by rw [M.blk, if_pos hh])
      have hvb : (getV st' v).block = (getV st v).block := by rw [M.blk, if_neg hnb]
      have hvb' : (getV st v).block ≠ b := fun h => hnb ⟨hv, h⟩
      rw [hvb] at hvs ⊢
      refine StatsB.congr (st := st) (b := (getV st v).block) ?_ (fun i hi => ?_) (hs v hv)
      · rw [m2 _ hvs]; exact BSame.rfl' _
      · have := (hinv.members v hv i).1 hi
        rw [M.gv, if_neg]
        · exact VSame.rfl' _
        · rintro ⟨_, h2⟩; exact hvb' (this.2.symm.trans h2)

/-! ## `init` -/

section Init
open FrameAux (ibStep IBInv)


theorem getB_setList (s : St) (l : Array Nat) (x : Nat) : getB { s with list := l } x = getB s x := rfl

theorem ibStep_statEq (st : St) (k : Nat) : StatEq (newBlock st k).1 (ibStep st k) := by
  unfold ibStep
  exact (statEq_setB_ind _ _ _).trans (statEq_setList _ _)

theorem ibStep_list (st : St) (k : Nat) : (ibStep st k).list = st.list.setIfInBounds k st.bs.size := by
  unfold ibStep
  dsimp only
  rw [setB_list, newBlock_snd, newBlock_fst_list]

theorem ibStep_bs_size (st : St) (k : Nat) : (ibStep st k).bs.size = st.bs.size + 1 := by
  simp only [ibStep, setB_bs_size, newBlock_fst_bs_size]

theorem ibStep_ind (st : St) (k x : Nat) :
    (getB (ibStep st k) x).ind = if x = st.bs.size then k else (getB (newBlock st k).1 x).ind := by
  unfold ibStep
  dsimp only
  rw [getB_setList, getB_setB, newBlock_snd, newBlock_fst_bs_size]
  by_cases hx : x = st.bs.size
  · rw [if_pos ⟨hx, Nat.lt_succ_self _⟩, if_pos hx]
  · rw [if_neg (fun h => hx h.1), if_neg hx]

theorem newDisj_of_singletons {s : St} {n k : Nat} (hsz : s.bs.size = n - k)
    (h : ∀ i, k ≤ i → i < n → (getB s (n - 1 - i)).vars = [i]) : NewDisj 0 s := by
  unfold NewDisj
  rw [hsz]
  have key : ∀ b, b < n - k → (getB s b).vars = [n - 1 - b] := fun b hb => by
    obtain ⟨a1, a2, a3⟩ := FrameAux.ib_index hb
    have := h (n - 1 - b) a1 a2
    rwa [a3] at this
  intro b _ hlt
  rw [key b hlt]
  refine ⟨List.pairwise_singleton _ _, fun b' _ hlt' hne i hi hi' => ?_⟩
  rw [key b' hlt', List.mem_singleton] at hi'
  rw [List.mem_singleton] at hi
  exact hne (FrameAux.ib_index_inj hlt hlt' (hi.symm.trans hi'))

/-- the list / `ind` / statistics part of the loop invariant of `initBlocks` -/
def IB2 (n k : Nat) (st : St) : Prop :=
  st.list.size = n ∧
  (∀ i, k ≤ i → i < n → st.list.getD i 0 = n - 1 - i ∧ (getB st (n - 1 - i)).ind = i) ∧ NewStats 0 st

theorem ibStep_ib2 (st0 : St) (n k : Nat) (st : St) (hs : ∀ i, i < n → (getV st0 i).s ≠ 0) (hk : k + 1 ≤ n)
    (h : IBInv st0 n (k + 1) st) (h2 : IB2 n (k + 1) st) : IB2 n k (ibStep st k) := by
  obtain ⟨g1, g2, g3⟩ := h2
  obtain ⟨_, _, _, _, h5', _, h7'⟩ := FrameAux.ibStep_inv st0 n k st hk h
  obtain ⟨_, _, _, _, h5, h6, _⟩ := h
  have hbs : n - (k + 1) = n - 1 - k := by rw [Nat.add_comm, Nat.sub_add_eq]
  have hE := ibStep_statEq st k
  refine ⟨by rw [ibStep_list, Array.size_setIfInBounds]; exact g1, fun i hki hin => ?_, fun b hb hlt => ?_⟩
  · rw [ibStep_list, FrameAux.natArr_getD_setIfInBounds, ibStep_ind, h5, g1]
    by_cases hik : i = k
    · rw [if_pos ⟨hik, hik ▸ hin⟩, hik, if_pos hbs.symm]
      exact ⟨hbs, rfl⟩
    · obtain ⟨a1, hne⟩ := FrameAux.ib_index_ne hki hin hik
      rw [if_neg (fun hh => hik hh.1), if_neg hne, newBlock_getB_ne _ _ _ (h5 ▸ hne)]
      exact g2 i a1 hin
  · have hσ : (getV st k).s ≠ 0 := by rw [(h6 k).2.2.1]; exact hs k hk
    have hD : NewDisj 0 (newBlock st k).1 := newDisj_of_singletons (n := n) (k := k)
      (by rw [← h5', ibStep_bs_size, newBlock_fst_bs_size])
      (fun i hki hin => by rw [← (hE.bsame _).1]; exact (h7' i hki hin).2.2)
    refine statsB_of_statEq hE ((newBlock_steps 0 st k (Nat.zero_le _) hσ).back g3 hD b hb ?_)
    rw [newBlock_fst_bs_size, ← ibStep_bs_size]
    exact hlt

theorem initBlocks_ib2 (st0 : St) (hs : ∀ i, i < st0.vs.size → (getV st0 i).s ≠ 0) :
    IB2 st0.vs.size 0 (initBlocks st0) := by
  rw [FrameAux.initBlocks_eq]
  exact (FrameAux.ibFold st0 _ (IB2 st0.vs.size) (fun k st hk h h2 => ibStep_ib2 st0 _ k st hs hk h h2) _ _ (Nat.le_refl _)
    (FrameAux.ibInv_start st0)
    ⟨by simp, fun i h1 h2 => absurd h2 (Nat.not_lt.mpr h1), fun b _ hb => absurd hb (Nat.not_lt_zero b)⟩).2

end Init

theorem init_ib2 (vars : List (Rat × Rat × Rat)) (cons : List (Nat × Nat × Rat)) (hs : ∀ v ∈ vars, v.2.2 ≠ 0) :
    IB2 vars.length 0 (init vars cons) := by
  have h := initBlocks_ib2 (FrameAux.init0 vars cons) (fun i hi => by
    rw [FrameAux.init0_vs_size] at hi
    rw [((FrameAux.init0_getV vars cons i).1 hi).2.2]
    exact hs _ (List.getElem_mem hi))
  rw [FrameAux.init0_vs_size, ← FrameAux.init_eq] at h
  exact h

theorem init_listInv (vars : List (Rat × Rat × Rat)) (cons : List (Nat × Nat × Rat)) (hs : ∀ v ∈ vars, v.2.2 ≠ 0) :
    ListInv (init vars cons) := by
  obtain ⟨g1, g2, _⟩ := init_ib2 vars cons hs
  obtain ⟨f1, _, _, _, _, _, _, f8⟩ := FrameAux.init_facts vars cons
  refine ListInv.mk' ?_ ?_ ?_
  · intro k hk
    rw [g1] at hk
    obtain ⟨a1, a2⟩ := g2 k (Nat.zero_le _) hk
    rw [a1]; exact a2
  · intro v hv
    rw [f1] at hv
    rw [(f8 v hv).1, ← (g2 v (Nat.zero_le _) hv).1]
    exact (FrameAux.natArr_mem_toList_iff _ _).2 ⟨v, by rw [g1]; exact hv, rfl⟩
  · intro b hb
    obtain ⟨k, hk, e⟩ := (FrameAux.natArr_mem_toList_iff _ _).1 hb
    rw [g1] at hk
    refine ⟨k, by rw [f1]; exact hk, ?_⟩
    rw [(f8 k hk).1, ← e, (g2 k (Nat.zero_le _) hk).1]

theorem init_statsInv (vars : List (Rat × Rat × Rat)) (cons : List (Nat × Nat × Rat)) (hs : ∀ v ∈ vars, v.2.2 ≠ 0) :
    StatsInv (init vars cons) := by
  obtain ⟨_, _, g3⟩ := init_ib2 vars cons hs
  obtain ⟨f1, _, _, _, _, f6, _, f8⟩ := FrameAux.init_facts vars cons
  intro v hv
  rw [f1] at hv
  rw [(f8 v hv).1]
  refine g3 _ (Nat.zero_le _) ?_
  rw [f6]
  exact Nat.lt_of_le_of_lt (Nat.sub_le _ _) (Nat.sub_lt (Nat.zero_lt_of_lt hv) Nat.one_pos)

/-! ## The other operations -/

theorem computeLm_ls (fuel : Nat) (st : St) (track : Bool) (m : Option Nat) (v : Nat) (u : Option Nat)
    (hL : ListInv st) (hS : StatsInv st) :
    ListInv (computeLm fuel st track m v u).1 ∧ StatsInv (computeLm fuel st track m v u).1 :=
  ⟨hL.of_quiet (computeLm_quiet track fuel st m v u), hS.of_quiet (computeLm_quiet track fuel st m v u)⟩

theorem findMinLM_ls (st : St) (b : Nat) (hL : ListInv st) (hS : StatsInv st) :
    ListInv (findMinLM st b).1 ∧ StatsInv (findMinLM st b).1 :=
  ⟨hL.of_quiet (findMinLM_quiet st b), hS.of_quiet (findMinLM_quiet st b)⟩

theorem mostViolated_ls (st : St) (hL : ListInv st) (hS : StatsInv st) :
    ListInv (mostViolated st).1 ∧ StatsInv (mostViolated st).1 :=
  ⟨hL.of_quiet (mostViolated_quiet st), hS.of_quiet (mostViolated_quiet st)⟩

theorem setC_ls (st : St) (ci : Nat) (c : C) (hL : ListInv st) (hS : StatsInv st) :
    ListInv (setC st ci c) ∧ StatsInv (setC st ci c) :=
  ⟨hL.of_quiet (quiet_setC st ci c), hS.of_quiet (quiet_setC st ci c)⟩

theorem setInactive_ls (st : St) (l : Array Nat) (hL : ListInv st) (hS : StatsInv st) :
    ListInv { st with inactive := l } ∧ StatsInv { st with inactive := l } :=
  ⟨hL.of_quiet (quiet_setInactive st l), hS.of_quiet (quiet_setInactive st l)⟩

theorem updateWeightedPosition_ls (st : St) (b : Nat) (hL : ListInv st) (hS : StatsInv st) :
    ListInv (updateWeightedPosition st b) ∧ StatsInv (updateWeightedPosition st b) :=
  ⟨updateWeightedPosition_listInv st b hL, updateWeightedPosition_statsInv st b hS⟩

theorem mergeBlocks_ls (st : St) (ci : Nat) (hinv : Inv st) (hnd : VarsNodup st) (hci : ci < st.cs.size)
    (ha : (getC st ci).active = false)
    (hb : (getV st (getC st ci).l).block ≠ (getV st (getC st ci).r).block)
    (hL : ListInv st) (hS : StatsInv st) : ListInv (mergeBlocks st ci) ∧ StatsInv (mergeBlocks st ci) :=
  mergeBlocks_list_stats st ci hinv hnd hci ha hb hL hS

/-- `Block.split(ci)`, `Blocks.insert` of the two new blocks, `Blocks.remove` of the block that was split -/
theorem splitReplace_ls (st : St) (ci : Nat) (hinv : Inv st) (hadj : AdjNodup st) (hci : ci < st.cs.size)
    (ha : (getC st ci).active = true) (herr : (blockSplit st ci).1.err = false) (hL : ListInv st) (hS : StatsInv st) :
    ListInv (removeBlock (insertBlock (insertBlock (blockSplit st ci).1 (blockSplit st ci).2.1) (blockSplit st ci).2.2)
      (getV st (getC st ci).l).block) ∧
    StatsInv (removeBlock (insertBlock (insertBlock (blockSplit st ci).1 (blockSplit st ci).2.1) (blockSplit st ci).2.2)
      (getV st (getC st ci).l).block) :=
  ⟨split_listInv st ci hinv hci ha herr hL, split_statsInv st ci hinv hadj hci ha herr hS _⟩

/-! ## The bundle -/

/-- everything that holds of the solver state between two operations -/
structure Inv2 (st : St) : Prop where
  inv : Inv st
  nd : VarsNodup st
  adj : AdjNodup st
  list : ListInv st
  stats : StatsInv st

theorem Inv2.of_quiet {st st' : St} (hce : CoreEq st st') (hq : Quiet st st') (h : Inv2 st) : Inv2 st' :=
  ⟨h.inv.of_coreEq hce, h.nd.of_coreEq hce, h.adj.of_frame hce.toFrame, h.list.of_quiet hq, h.stats.of_quiet hq⟩

theorem init_inv2 (vars : List (Rat × Rat × Rat)) (cons : List (Nat × Nat × Rat))
    (hidx : ∀ c ∈ cons, c.1 < vars.length ∧ c.2.1 < vars.length) (hs : ∀ v ∈ vars, v.2.2 ≠ 0) :
    Inv2 (init vars cons) ∧ Covered (init vars cons) none :=
  ⟨⟨(init_inv vars cons hidx hs).1, init_varsNodup vars cons, init_adjNodup vars cons,
    init_listInv vars cons hs, init_statsInv vars cons hs⟩, (init_inv vars cons hidx hs).2.1⟩

end Labella.Vpsc
