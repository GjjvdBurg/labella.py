import Labella.Proofs.EngineTLemmas
/-! # The `parent` / `child` LINKS the stateful engine leaves behind (helpers for the pointer half of C04)

The loop invariant `SInv` of `Proofs/EngineTLemmas.lean` relates the stateful run to the pure one through ghost layers of
`(node id, Ref)` pairs and knows where the `parent` / `child` links of the ghost items point.  Here: the reported layers are
the distributed ones (each sorted in place), and the LOCAL description `LocalLinks` of the pointer structure after `computeT`,
purely in terms of the store's fields. -/
namespace Labella.EngineT
open Labella Labella.Layout

/-! ## the per-layer loop: the reported layers are the distributed ones (each sorted in place) -/

theorem placeT_perm (o : FOpts) : ∀ (layers : List (List Nat)) (j : Nat) (s : Store),
    List.Forall₂ List.Perm (placeT o j s layers).2 layers
  | [], _, _ => by rw [placeT]; exact .nil
  | l :: ls, j, s => by rw [placeT]; exact .cons (removeOverlapT_perm _ _ _) (placeT_perm o ls _ _)

theorem placeT_length (o : FOpts) : ∀ (layers : List (List Nat)) (j : Nat) (s : Store),
    (placeT o j s layers).2.length = layers.length :=
  fun layers j s => (placeT_perm o layers j s).length_eq

theorem forall₂_perm_getD {α : Type} {A B : List (List α)} (h : List.Forall₂ List.Perm A B) (m : Nat) :
    (A.getD m []).Perm (B.getD m []) := by
  induction h generalizing m with
  | nil => exact List.Perm.refl _
  | cons hp _ ih =>
    cases m with
    | zero => exact hp
    | succ m => exact ih m

/-! ## the local description of the links after a layout -/

/-- The pointer structure of a finished layout, stated about the FIELDS of the store only (`layers` = what the engine reports,
`nodes` = the engine's nodes, `sw` = the configured stub width). -/
structure LocalLinks (s : Store) (layers : List (List Nat)) (nodes : List Nat) (sw : Rat) : Prop where
  nodup : layers.flatten.Nodup
  cover : ∀ i ∈ nodes, i ∈ layers.flatten
  kind : ∀ x ∈ layers.flatten, (x ∈ nodes ↔ (get s x).child = none)
  layerIndex : ∀ m, ∀ x ∈ layers.getD m [], (get s x).layerIndex = m
  root : ∀ x ∈ layers.getD 0 [], (get s x).parent = none
  /-- an item of layer `m + 1` has a parent: an item of layer `m`, whose `child` is the item, a stub of the configured width
  carrying the same data position and payload -/
  up : ∀ m, ∀ x ∈ layers.getD (m + 1) [], ∃ p ∈ layers.getD m [], (get s x).parent = some p ∧ (get s p).child = some x ∧
    (get s p).ideal = (get s x).ideal ∧ (get s p).data = (get s x).data ∧ (get s p).width = sw
  /-- the `child` of a stub item of layer `m` is an item of layer `m + 1` whose `parent` is the stub -/
  down : ∀ m, ∀ x ∈ layers.getD m [], ∀ c, (get s x).child = some c →
    c ∈ layers.getD (m + 1) [] ∧ (get s c).parent = some x

theorem projT_flatten (G : GL) : (projT G).flatten = G.flatten.map Prod.fst := by
  unfold projT
  rw [List.map_flatten]

theorem projP_flatten (G : GL) : (projP G).flatten = G.flatten.map Prod.snd := by
  unfold projP
  rw [List.map_flatten]

theorem mem_projT_getD {G : GL} {m x : Nat} : x ∈ (projT G).getD m [] ↔ ∃ r, (x, r) ∈ G.getD m [] := by
  rw [projT_getD, List.mem_map]
  constructor
  · rintro ⟨⟨a, r⟩, h, rfl⟩; exact ⟨r, h⟩
  · rintro ⟨r, h⟩; exact ⟨(x, r), h, rfl⟩

/-- first bridge (the second is `C04.linksOK_of_local`): what the invariants `SInv` / `PInv` know of the ghost layers `G` after the
distributor, carried over the per-layer loop (`CL`: only `cur` / `layerIndex` written; `layers` = the layers of `G`, each
permuted), is `LocalLinks` of the final store, with no `Ref` left in the statement -/
theorem localLinks_of_ghost {labels : List Label} {datas : List Nat} {o : FOpts} {nodes : List Nat} {n0 : Nat}
    {sd sf : Store} {G : GL} {layers : List (List Nat)}
    (h : SInv labels datas o.stubWidth nodes n0 sd G) (hp : PInv o labels datas sd none G)
    (hnodes : ∀ i ∈ nodes, i < n0) (hcov : ∀ k, k < nodes.length → ∃ x ∈ G.flatten, x.2 = Ref.label k)
    (hcl : CL sd sf) (hperm : List.Forall₂ List.Perm layers (projT G))
    (hli : ∀ m, ∀ x ∈ G.getD m [], (get sf x.1).layerIndex = m) :
    LocalLinks sf layers nodes o.stubWidth := by
  have hflat : ∀ x, x ∈ layers.flatten ↔ ∃ r, (x, r) ∈ G.flatten := by
    intro x
    rw [(List.Perm.flatten_congr hperm).mem_iff, projT_flatten, List.mem_map]
    exact ⟨fun ⟨⟨a, r⟩, har, e⟩ => ⟨r, e ▸ har⟩, fun ⟨r, hr⟩ => ⟨(x, r), hr, rfl⟩⟩
  have hget : ∀ {m x}, x ∈ layers.getD m [] → ∃ r, (x, r) ∈ G.getD m [] := fun hx =>
    mem_projT_getD.1 ((forall₂_perm_getD hperm _).subset hx)
  have hput : ∀ {m x r}, (x, r) ∈ G.getD m [] → x ∈ layers.getD m [] := fun hx =>
    (forall₂_perm_getD hperm _).symm.subset (mem_projT_getD.2 ⟨_, hx⟩)
  refine ⟨?_, ?_, ?_, fun m x hx => ?_, ?_, ?_, ?_⟩
  · rw [(List.Perm.flatten_congr hperm).nodup_iff, projT_flatten]; exact h.nodup
  · intro i hi
    obtain ⟨k, hk, rfl⟩ := List.mem_iff_getElem.1 hi
    obtain ⟨x, hx, hx2⟩ := hcov k hk
    obtain ⟨_, hx1⟩ := h.lab x hx (by rw [hx2]; rfl)
    rw [hx2] at hx1
    simp only [Ref.id] at hx1
    rw [getD_eq_getElem 0 hk] at hx1
    rw [← hx1]
    exact (hflat _).2 ⟨x.2, hx⟩
  · intro x hx
    obtain ⟨r, hxr⟩ := (hflat x).1 hx
    have hs := (h.rep _ hxr).stub
    simp only at hs
    rw [hcl.child]
    cases hr : r.isStub with
    | false =>
      rw [hr] at hs
      have hnone : (get sd x).child = none := by
        cases hch : (get sd x).child with
        | none => rfl
        | some c => rw [hch] at hs; cases hs
      obtain ⟨hk, hx1⟩ := h.lab _ hxr hr
      simp only at hx1
      exact ⟨fun _ => hnone, fun _ => hx1 ▸ getD_mem hk⟩
    | true =>
      rw [hr] at hs
      have hge := h.stubNew _ hxr hr
      simp only at hge
      refine ⟨fun hin => ?_, fun hnone => ?_⟩
      · have := hnodes x hin
        omega
      · rw [hnone] at hs
        cases hs
  · obtain ⟨r, hxr⟩ := hget hx
    exact hli m _ hxr
  · intro x hx
    obtain ⟨r, hxr⟩ := hget hx
    rw [hcl.parent]
    cases hpar : (get sd x).parent with
    | none => rfl
    | some p =>
      obtain ⟨m', y, e, _⟩ := h.par 0 (x, r) hxr p hpar
      omega
  · intro m x hx
    obtain ⟨r, hxr⟩ := hget hx
    obtain ⟨y, hy, hy1, hy2⟩ := hp.link m (x, r) hxr
    obtain ⟨_, _, _, _, _, _, hch⟩ := h.par (m + 1) (x, r) hxr y.1 hy1
    have hrx := h.rep _ (mem_flatten_of_mem_getD hxr)
    have hry := h.rep y (mem_flatten_of_mem_getD hy)
    simp only at hch hy1 hy2
    have hys : y.2.isStub = true := by
      have := hry.stub
      rw [hch] at this
      exact this.symm
    refine ⟨y.1, hput hy, ?_, ?_, ?_, ?_, ?_⟩
    · rw [hcl.parent]; exact hy1
    · rw [hcl.child]; exact hch
    · rw [hcl.ideal, hcl.ideal, hry.ideal, hrx.ideal, hy2]
    · rw [hcl.data, hcl.data, hry.data, hrx.data, hy2]
    · rw [hcl.width, hry.width, if_pos hys]
  · -- the child of `x` stands for the same label one layer up; so does the item whose parent link leads to `x`'s layer,
    -- and a layer holds one item per label
    intro m x hx c hc
    obtain ⟨r, hxr⟩ := hget hx
    rw [hcl.child] at hc
    obtain ⟨y, hy, hy1, hy2, -⟩ := h.cd m (x, r) hxr c hc
    obtain ⟨z, hz, hz1, hz2⟩ := hp.link m y hy
    have hidn := hp.idn _ (getD_mem (d := []) (lt_length_of_mem_getD hxr))
    have hzx : z = (x, r) := List.inj_on_of_nodup_map hidn hz hxr (by rw [hz2, hy2])
    subst hy1
    exact ⟨hput hy, by rw [hcl.parent, hz1, hzx]⟩

theorem computeT_localLinks (e : Engine) (s : Store) (hg : GoodN s e.nodes) :
    LocalLinks (computeT e s).2 ((computeT e s).1.layers.getD []) e.nodes e.opts.stubWidth := by
  obtain ⟨hc, -, -⟩ := hg.clean
  obtain ⟨G, g1, g2, g3⟩ := distributeT_spec e.opts.toD (e.nodes.foldl removeStub s) e.nodes hc
  obtain ⟨g4, g5⟩ := distribute_shape e.opts.toD (labelsOf (e.nodes.foldl removeStub s) e.nodes)
  rw [g2] at g4 g5
  have hinv := PInv_of_SInv (o := e.opts) g3 g4 g5
  obtain ⟨-, -, p4⟩ := placeT_spec e.opts _ _ G 0 _ none hinv
  rw [computeT_eq]
  simp only [Option.getD_some]
  rw [g1]
  refine localLinks_of_ghost (o := e.opts) g3 hinv
    (fun i hi => by rw [(removeStub_fold e.nodes s).1.size]; exact hg.lt i hi) ?_ (placeT_CL _ _ _ _) (placeT_perm _ _ _ _)
    (fun m x hx => by rw [p4 m x hx, Nat.zero_add])
  intro k hk
  have hk' : k ∈ labelIds (distribute e.opts.toD (labelsOf (e.nodes.foldl removeStub s) e.nodes)) := by
    apply (labelIds_distribute _ _).symm.subset
    rw [labelsOf_length]
    exact List.mem_range.2 hk
  rw [g2] at hk'
  unfold labelIds at hk'
  obtain ⟨r, hr, hrk⟩ := List.mem_filterMap.1 hk'
  rw [projP_flatten] at hr
  obtain ⟨x, hx, rfl⟩ := List.mem_map.1 hr
  refine ⟨x, hx, ?_⟩
  cases hx2 : x.2 with
  | label i => rw [hx2] at hrk; simp only [Option.some.injEq] at hrk; rw [hrk]
  | stub i lv => rw [hx2] at hrk; cases hrk

end Labella.EngineT
