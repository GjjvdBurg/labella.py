import Labella.Proofs.VpscLoops
import Labella.Proofs.VpscCost
/-! # Incremental use of the solver: `setDesiredPositions` followed by `solve` on the SAME state (`Vpsc.setDesired`, `Vpsc.resolve`)

`setDesired` overwrites the desired positions `d` of the variables and nothing else.  Of the invariants of the solver state
(`Inv`, `VarsNodup`, `AdjNodup`, `ListInv`, `Covered`, `StatsInv`) only `StatsInv` mentions `d` (through the sum `AD` and the block
position `posn`), so after `setDesired` the statistics are STALE.  The next `solve` starts with `satisfy`, which starts with
`blocksSplit`, which starts by calling `updateWeightedPosition` on every listed block: that function recomputes `AB`, `AD`, `A2` from
scratch over the `vars` list of the block (and `posn` from them) — it reads nothing of the old statistics but `scale` and `vars`.
Hence the weak invariant `ScaleInv` (the scale of every block in use is nonzero) is enough at the entry of `solve` (`solve_specW`). -/
namespace Labella.Vpsc

/-! ## `setDesired` -/

/-- `st'` is `st` with other desired positions -/
structure DEq (st st' : St) : Prop where
  cs_eq : st'.cs = st.cs
  bs_eq : st'.bs = st.bs
  list_eq : st'.list = st.list
  inactive_eq : st'.inactive = st.inactive
  err_eq : st'.err = st.err
  vsize : st'.vs.size = st.vs.size
  vfix : ∀ i, (getV st' i).w = (getV st i).w ∧ (getV st' i).s = (getV st i).s ∧
    (getV st' i).offset = (getV st i).offset ∧ (getV st' i).block = (getV st i).block ∧
    (getV st' i).cOut = (getV st i).cOut ∧ (getV st' i).cIn = (getV st i).cIn

theorem setDesired_getV (st : St) (ps : List Rat) (i : Nat) :
    getV (setDesired st ps) i =
      if i < st.vs.size then { getV st i with d := ps.getD i (getV st i).d } else getV st i := by
  unfold getV setDesired
  simp only [Array.getD_eq_getD_getElem?, Array.getElem?_mapIdx]
  by_cases h : i < st.vs.size
  · simp [h]
  · simp [h]

theorem setDesired_dEq (st : St) (ps : List Rat) : DEq st (setDesired st ps) := by
  refine ⟨rfl, rfl, rfl, rfl, rfl, by simp [setDesired], fun i => ?_⟩
  rw [setDesired_getV]
  split <;> exact ⟨rfl, rfl, rfl, rfl, rfl, rfl⟩

theorem setDesired_d (st : St) (ps : List Rat) (i : Nat) (hi : i < st.vs.size) :
    (getV (setDesired st ps) i).d = ps.getD i (getV st i).d := by
  rw [setDesired_getV, if_pos hi]

theorem DEq.getC {st st' : St} (h : DEq st st') (i : Nat) : getC st' i = getC st i := getC_congr h.cs_eq i

theorem DEq.getB {st st' : St} (h : DEq st st') (i : Nat) : getB st' i = getB st i := getB_congr h.bs_eq i

theorem Inv.of_dEq {st st' : St} (h : DEq st st') (hi : Inv st) : Inv st' :=
  hi.of_same h.vsize (by rw [h.cs_eq]) (by rw [h.bs_eq])
    (fun i => ⟨(h.vfix i).2.1, (h.vfix i).2.2.2.2.1, (h.vfix i).2.2.2.2.2, (h.vfix i).2.2.1, (h.vfix i).2.2.2.1⟩)
    (fun i => by rw [h.getC]; exact ⟨rfl, rfl, rfl, rfl⟩) (fun b => by rw [h.getB])
    (fun c hc => hi.wf.inactive_lt c (h.inactive_eq ▸ hc))

theorem VarsNodup.of_dEq {st st' : St} (h : DEq st st') (hn : VarsNodup st) : VarsNodup st' := by
  intro v hv
  rw [(h.vfix v).2.2.2.1, h.getB]
  exact hn v (by rw [h.vsize] at hv; exact hv)

theorem AdjNodup.of_dEq {st st' : St} (h : DEq st st') (hn : AdjNodup st) : AdjNodup st' := by
  intro v hv
  rw [(h.vfix v).2.2.2.2.1, (h.vfix v).2.2.2.2.2]
  exact hn v (by rw [h.vsize] at hv; exact hv)

theorem Covered.of_dEq {st st' : St} {x : Option Nat} (h : DEq st st') (hc : Covered st x) : Covered st' x := by
  intro ci hci hne
  rw [h.cs_eq] at hci
  rw [h.getC, h.inactive_eq]
  exact hc ci hci hne

theorem ListInv.of_dEq {st st' : St} (h : DEq st st') (hl : ListInv st) : ListInv st' :=
  hl.congr h.vsize (fun i => (h.vfix i).2.2.2.1) h.list_eq (fun x => by rw [h.getB])

theorem ScaleInv.of_dEq {st st' : St} (h : DEq st st') (hs : ScaleInv st) : ScaleInv st' := by
  intro v hv
  rw [(h.vfix v).2.2.2.1, h.getB]
  exact hs v (by rw [h.vsize] at hv; exact hv)

/-! ## the problem data carried by a state -/

/-- the state holds the instance `(vars, cons)`: desired positions, weights, scales; constraint ends and gaps -/
structure Data (vars : List (Rat × Rat × Rat)) (cons : List (Nat × Nat × Rat)) (st : St) : Prop where
  vsize : st.vs.size = vars.length
  csize : st.cs.size = cons.length
  vdat : ∀ i (h : i < vars.length), (getV st i).d = vars[i].1 ∧ (getV st i).w = vars[i].2.1 ∧ (getV st i).s = vars[i].2.2
  cdat : ∀ i (h : i < cons.length), (getC st i).l = cons[i].1 ∧ (getC st i).r = cons[i].2.1 ∧ (getC st i).g = cons[i].2.2

theorem Data.of_frame {vars : List (Rat × Rat × Rat)} {cons : List (Nat × Nat × Rat)} {st st' : St}
    (f : Frame st st') (h : Data vars cons st) : Data vars cons st' where
  vsize := f.vsize.trans h.vsize
  csize := f.csize.trans h.csize
  vdat := fun i hi => by
    obtain ⟨a1, a2, a3⟩ := h.vdat i hi
    obtain ⟨b1, b2, b3, _⟩ := f.vstat i
    exact ⟨b1.trans a1, b2.trans a2, b3.trans a3⟩
  cdat := fun i hi => by
    obtain ⟨a1, a2, a3⟩ := h.cdat i hi
    obtain ⟨b1, b2, b3⟩ := f.cstat i
    exact ⟨b1.trans a1, b2.trans a2, b3.trans a3⟩

theorem init_data (vars : List (Rat × Rat × Rat)) (cons : List (Nat × Nat × Rat))
    (hidx : ∀ c ∈ cons, c.1 < vars.length ∧ c.2.1 < vars.length) (hs : ∀ v ∈ vars, v.2.2 ≠ 0) :
    Data vars cons (init vars cons) := by
  obtain ⟨_, _, _, i4, i5, i6, i7⟩ := init_inv vars cons hidx hs
  exact ⟨i4, i5, i6, i7⟩

/-- the instance after `setDesiredPositions(ps)`: entry `i` of `ps` (when there is one) replaces the desired position of variable `i` -/
def retarget (vars : List (Rat × Rat × Rat)) (ps : List Rat) : List (Rat × Rat × Rat) :=
  vars.zipIdx.map (fun (p : (Rat × Rat × Rat) × Nat) => (ps.getD p.2 p.1.1, p.1.2.1, p.1.2.2))

theorem retarget_length (vars : List (Rat × Rat × Rat)) (ps : List Rat) : (retarget vars ps).length = vars.length := by
  simp [retarget]

theorem retarget_getElem (vars : List (Rat × Rat × Rat)) (ps : List Rat) (i : Nat) (h : i < vars.length) :
    (retarget vars ps)[i]'(by rw [retarget_length]; exact h) = (ps.getD i vars[i].1, vars[i].2.1, vars[i].2.2) := by
  simp [retarget]

theorem Data.setDesired {vars : List (Rat × Rat × Rat)} {cons : List (Nat × Nat × Rat)} {st : St}
    (h : Data vars cons st) (ps : List Rat) : Data (retarget vars ps) cons (setDesired st ps) := by
  have hd := setDesired_dEq st ps
  refine ⟨?_, ?_, ?_, ?_⟩
  · rw [hd.vsize, retarget_length]; exact h.vsize
  · rw [hd.cs_eq]; exact h.csize
  · intro i hi
    have hi' : i < vars.length := by rw [retarget_length] at hi; exact hi
    obtain ⟨a1, a2, a3⟩ := h.vdat i hi'
    rw [retarget_getElem vars ps i hi', setDesired_d st ps i (by rw [h.vsize]; exact hi'), (hd.vfix i).1, (hd.vfix i).2.1]
    exact ⟨by rw [a1], a2, a3⟩
  · intro i hi
    rw [hd.getC]
    exact h.cdat i hi

theorem foldl_retarget_snd (pss : List (List Rat)) : ∀ vars : List (Rat × Rat × Rat),
    (pss.foldl retarget vars).length = vars.length ∧
    ∀ i (h : i < vars.length) (h' : i < (pss.foldl retarget vars).length),
      (pss.foldl retarget vars)[i].2 = vars[i].2 := by
  induction pss with
  | nil => intro vars; exact ⟨rfl, fun _ _ _ => rfl⟩
  | cons ps t ih =>
    intro vars
    rw [List.foldl_cons]
    obtain ⟨h1, h2⟩ := ih (retarget vars ps)
    refine ⟨h1.trans (retarget_length _ _), fun i h h' => ?_⟩
    rw [h2 i (by rw [retarget_length]; exact h) h', retarget_getElem vars ps i h]

theorem retarget_weights {vars : List (Rat × Rat × Rat)} (hw : ∀ v ∈ vars, 0 < v.2.1) (pss : List (List Rat)) :
    ∀ v ∈ pss.foldl retarget vars, 0 < v.2.1 := by
  obtain ⟨t1, t2⟩ := foldl_retarget_snd pss vars
  intro v hv
  obtain ⟨i, hi, rfl⟩ := List.getElem_of_mem hv
  rw [t2 i (t1 ▸ hi) hi]
  exact hw _ (List.getElem_mem _)

/-! ## `resolve` -/

theorem solve_errmono (fuel sfuel : Nat) (st : St) (h : st.err = true) : (solve fuel sfuel st).1.err = true := by
  unfold solve
  exact solveLoop_errmono fuel sfuel _ _ _ (satisfy_errmono sfuel st h)

/-- what holds of the pair `solve` returns -/
structure Good (vars : List (Rat × Rat × Rat)) (cons : List (Nat × Nat × Rat)) (r : St × Rat) : Prop where
  inv2 : Inv2 r.1
  cov : Covered r.1 none
  feas : Feasible r.1
  cost : r.2 = cost r.1
  data : Data vars cons r.1

theorem solve_good (vars : List (Rat × Rat × Rat)) (cons : List (Nat × Nat × Rat)) (fuel sfuel : Nat) (st : St)
    (hinv : Inv st) (hnd : VarsNodup st) (hadj : AdjNodup st) (hL : ListInv st) (hS : ScaleInv st) (hcov : Covered st none)
    (hd : Data vars cons st) (herr : (solve fuel sfuel st).1.err = false) : Good vars cons (solve fuel sfuel st) := by
  obtain ⟨h1, h2, h3, h4, h5⟩ := solve_specW fuel sfuel st hinv hnd hadj hL hS hcov herr
  exact ⟨h1, h2, h3, h5, hd.of_frame h4⟩

theorem resolve_step_good (vars : List (Rat × Rat × Rat)) (cons : List (Nat × Nat × Rat)) (fuel sfuel : Nat)
    (r : St × Rat) (ps : List Rat) (h : Good vars cons r) (herr : (solve fuel sfuel (setDesired r.1 ps)).1.err = false) :
    Good (retarget vars ps) cons (solve fuel sfuel (setDesired r.1 ps)) := by
  have hd := setDesired_dEq r.1 ps
  exact solve_good _ cons fuel sfuel _ (h.inv2.inv.of_dEq hd) (h.inv2.nd.of_dEq hd) (h.inv2.adj.of_dEq hd)
    (h.inv2.list.of_dEq hd) (h.inv2.stats.scaleInv.of_dEq hd) (h.cov.of_dEq hd) (h.data.setDesired ps) herr

theorem resolve_fold_errmono (fuel sfuel : Nat) (pss : List (List Rat)) : ∀ r : St × Rat, r.1.err = true →
    (pss.foldl (fun r ps => solve fuel sfuel (setDesired r.1 ps)) r).1.err = true := by
  induction pss with
  | nil => intro r h; exact h
  | cons ps t ih =>
    intro r h
    rw [List.foldl_cons]
    exact ih _ (solve_errmono fuel sfuel _ h)

theorem resolve_fold_good (cons : List (Nat × Nat × Rat)) (fuel sfuel : Nat) (pss : List (List Rat)) :
    ∀ (vars : List (Rat × Rat × Rat)) (r : St × Rat), Good vars cons r →
    (pss.foldl (fun r ps => solve fuel sfuel (setDesired r.1 ps)) r).1.err = false →
    Good (pss.foldl retarget vars) cons (pss.foldl (fun r ps => solve fuel sfuel (setDesired r.1 ps)) r) := by
  induction pss with
  | nil => intro vars r h _; exact h
  | cons ps t ih =>
    intro vars r h herr
    rw [List.foldl_cons] at herr ⊢
    rw [List.foldl_cons]
    have herr1 : (solve fuel sfuel (setDesired r.1 ps)).1.err = false :=
      err_false_of_imp (resolve_fold_errmono fuel sfuel t _) herr
    exact ih _ _ (resolve_step_good vars cons fuel sfuel r ps h herr1) herr

theorem resolve_first_err (fuel sfuel : Nat) (st : St) (pss : List (List Rat))
    (herr : (resolve fuel sfuel st pss).1.err = false) : (solve fuel sfuel st).1.err = false :=
  err_false_of_imp (b := (resolve fuel sfuel st pss).1) (resolve_fold_errmono fuel sfuel pss _) herr

/-- **`resolve` from the initial state**: the final pair satisfies every invariant, is feasible, returns its own cost, and holds the given
instance with the desired positions as last set -/
theorem resolve_good (vars : List (Rat × Rat × Rat)) (cons : List (Nat × Nat × Rat))
    (hidx : ∀ c ∈ cons, c.1 < vars.length ∧ c.2.1 < vars.length) (hs : ∀ v ∈ vars, v.2.2 ≠ 0) (fuel sfuel : Nat)
    (pss : List (List Rat)) (herr : (resolve fuel sfuel (init vars cons) pss).1.err = false) :
    Good (pss.foldl retarget vars) cons (resolve fuel sfuel (init vars cons) pss) := by
  obtain ⟨hI2, hcov⟩ := init_inv2 vars cons hidx hs
  have h0 : Good vars cons (solve fuel sfuel (init vars cons)) :=
    solve_good vars cons fuel sfuel _ hI2.inv hI2.nd hI2.adj hI2.list hI2.stats.scaleInv hcov
      (init_data vars cons hidx hs) (resolve_first_err fuel sfuel _ pss herr)
  exact resolve_fold_good cons fuel sfuel pss vars _ h0 herr

theorem solve_init_good (vars : List (Rat × Rat × Rat)) (cons : List (Nat × Nat × Rat))
    (hidx : ∀ c ∈ cons, c.1 < vars.length ∧ c.2.1 < vars.length) (hs : ∀ v ∈ vars, v.2.2 ≠ 0) (fuel sfuel : Nat)
    (herr : (solve fuel sfuel (init vars cons)).1.err = false) : Good vars cons (solve fuel sfuel (init vars cons)) :=
  resolve_good vars cons hidx hs fuel sfuel [] herr

end Labella.Vpsc
