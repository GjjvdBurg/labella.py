import Labella.Proofs.VpscStats
import Mathlib.Algebra.Order.Field.Rat
import Mathlib.Algebra.BigOperators.Group.List.Basic
import Mathlib.Algebra.BigOperators.Group.Finset.Basic
import Mathlib.Algebra.BigOperators.Ring.Finset
import Mathlib.Tactic.Ring
import Mathlib.Tactic.Linarith
import Mathlib.Tactic.FieldSimp
/-! # Optimality half of C05: what `computeLm` computes on a tree (used by `Proofs/VpscKKT.lean`)

`LmOnly s0 s`: `s` is `s0` up to the `lm` fields of the constraints and the `err` flag (what `computeLm` does).
`netVx s0 s x i` = `Σ_c lam_c · (s_i·[r_c = i] − s_i·[l_c = i])` over the constraints other than `x`, with the multipliers read
from `s` and everything else from `s0`.

`computeLm_post`: called on `v` (reached through the constraint `pe`) in a state whose active graph is a forest, `computeLm`
* changes nothing but the multipliers of the active constraints (other than `pe`) that have an end in the region of `v`
  (the variables connected to `v` by active constraints other than `pe`),
* leaves every variable `x ≠ v` of that region balanced: `Σ_c lm_c · ∂slack_c/∂x = dfdv x`,
* returns `D` with `Σ_{c ≠ pe} lm_c · ∂slack_c/∂v = dfdv v − s_v · D`
  (so the caller balances `v` by storing `±D` in `pe`; at the root, `v` is balanced iff `D = 0`). -/
namespace Labella.Vpsc
namespace KKT
open FrameAux

structure LmOnly (s0 s : St) : Prop where
  core : CoreEq s0 s
  bs_eq : s.bs = s0.bs

theorem LmOnly.refl (s : St) : LmOnly s s := ⟨CoreEq.refl s, rfl⟩

theorem LmOnly.trans {a b c : St} (h1 : LmOnly a b) (h2 : LmOnly b c) : LmOnly a c :=
  ⟨h1.core.trans h2.core, h2.bs_eq.trans h1.bs_eq⟩

theorem LmOnly.getV {s0 s : St} (h : LmOnly s0 s) (i : Nat) : getV s i = getV s0 i := getV_of_coreEq h.core i

theorem LmOnly.getB {s0 s : St} (h : LmOnly s0 s) (b : Nat) : getB s b = getB s0 b := getB_congr h.bs_eq b

theorem LmOnly.l {s0 s : St} (h : LmOnly s0 s) (c : Nat) : (getC s c).l = (getC s0 c).l := (h.core.cstat c).1
theorem LmOnly.r {s0 s : St} (h : LmOnly s0 s) (c : Nat) : (getC s c).r = (getC s0 c).r := (h.core.cstat c).2.1
theorem LmOnly.g {s0 s : St} (h : LmOnly s0 s) (c : Nat) : (getC s c).g = (getC s0 c).g := (h.core.cstat c).2.2
theorem LmOnly.active {s0 s : St} (h : LmOnly s0 s) (c : Nat) : (getC s c).active = (getC s0 c).active :=
  (h.core.flags c).1

theorem LmOnly.position {s0 s : St} (h : LmOnly s0 s) (i : Nat) : position s i = position s0 i := by
  unfold Vpsc.position
  simp only [h.getV, h.getB]

theorem LmOnly.slack {st s : St} (h : LmOnly st s) (c : Nat) : slack s c = slack st c := by
  unfold Vpsc.slack
  simp only [h.getV, h.position, h.l, h.r, h.g, (h.core.flags c).2]

theorem LmOnly.dfdv {s0 s : St} (h : LmOnly s0 s) (i : Nat) : dfdv s i = dfdv s0 i := by
  unfold Vpsc.dfdv
  simp only [h.getV, h.position]

theorem LmOnly.neighbours {s0 s : St} (h : LmOnly s0 s) (i : Nat) : neighbours s i = neighbours s0 i := by
  unfold Vpsc.neighbours
  simp only [h.getV, h.l, h.r]

theorem LmOnly.setLm {s0 s : St} (h : LmOnly s0 s) (c : Nat) (x : Rat) :
    LmOnly s0 (setC s c { getC s c with lm := x }) :=
  ⟨h.core.trans (coreEq_setC _ _ _ rfl rfl rfl rfl rfl), h.bs_eq⟩

theorem LmOnly.setErr {s0 s : St} (h : LmOnly s0 s) : LmOnly s0 { s with err := true } :=
  ⟨h.core.trans (coreEq_err _ true (fun _ => rfl)), h.bs_eq⟩

theorem computeLm_lmOnly (fuel : Nat) (st : St) (track : Bool) (m : Option Nat) (v : Nat) (u : Option Nat) :
    LmOnly st (computeLm fuel st track m v u).1 :=
  ⟨computeLm_coreEq fuel st track m v u, (computeLm_quiet track fuel st m v u).bs_eq⟩

/-- `∂ slack_c / ∂ x_i` -/
def coef (s0 : St) (i c : Nat) : Rat :=
  (if (getC s0 c).r = i then (getV s0 i).s else 0) - (if (getC s0 c).l = i then (getV s0 i).s else 0)

def lam (s0 s : St) (c : Nat) : Rat := if (getC s0 c).active then (getC s c).lm else 0

def netVx (s0 s : St) (x : Option Nat) (i : Nat) : Rat :=
  ((List.range s0.cs.size).map fun c => if some c = x then 0 else lam s0 s c * coef s0 i c).sum

theorem lam_inactive {s0 s : St} {c : Nat} (h : (getC s0 c).active = false) : lam s0 s c = 0 := by
  simp [lam, h]

theorem lam_active {s0 s : St} {c : Nat} (h : (getC s0 c).active = true) : lam s0 s c = (getC s c).lm := by
  simp [lam, h]

theorem coef_zero {s0 : St} {i c : Nat} (hl : (getC s0 c).l ≠ i) (hr : (getC s0 c).r ≠ i) : coef s0 i c = 0 := by
  simp [coef, hl, hr]

theorem coef_left {s0 : St} {i c : Nat} (hl : (getC s0 c).l = i) (hr : (getC s0 c).r ≠ i) :
    coef s0 i c = - (getV s0 i).s := by
  simp [coef, hl, hr]

theorem coef_right {s0 : St} {i c : Nat} (hl : (getC s0 c).l ≠ i) (hr : (getC s0 c).r = i) :
    coef s0 i c = (getV s0 i).s := by
  simp [coef, hl, hr]

theorem netVx_none (s0 s : St) (i : Nat) :
    netVx s0 s none i = ((List.range s0.cs.size).map fun c => lam s0 s c * coef s0 i c).sum := by
  simp [netVx]

theorem netVx_congr {s0 s s' : St} {x : Option Nat} {i : Nat}
    (h : ∀ c, c < s0.cs.size → some c ≠ x → (getC s0 c).active = true → ((getC s0 c).l = i ∨ (getC s0 c).r = i) →
      (getC s' c).lm = (getC s c).lm) :
    netVx s0 s' x i = netVx s0 s x i := by
  unfold netVx
  refine congrArg List.sum (List.map_congr_left fun c hc => ?_)
  by_cases hx : some c = x
  · rw [if_pos hx, if_pos hx]
  · rw [if_neg hx, if_neg hx]
    by_cases hi : (getC s0 c).l = i ∨ (getC s0 c).r = i
    · cases ha : (getC s0 c).active with
      | false => rw [lam_inactive ha, lam_inactive ha]
      | true => rw [lam_active ha, lam_active ha, h c (List.mem_range.1 hc) hx ha hi]
    · rw [coef_zero (not_or.1 hi).1 (not_or.1 hi).2, mul_zero, mul_zero]

theorem sum_range_split (m : Nat) (f : Nat → Rat) (c : Nat) (hc : c < m) :
    ((List.range m).map f).sum = ((List.range m).map fun c' => if c' = c then 0 else f c').sum + f c := by
  show ∑ i ∈ Finset.range m, f i = (∑ i ∈ Finset.range m, if i = c then 0 else f i) + f c
  have h : (∑ i ∈ Finset.range m, if i = c then f i else 0) = f c := by
    rw [Finset.sum_ite_eq', if_pos (Finset.mem_range.2 hc)]
  rw [← h, ← Finset.sum_add_distrib]
  exact Finset.sum_congr rfl fun i _ => by split_ifs <;> simp

theorem netVx_split (s0 s : St) (i c : Nat) (hc : c < s0.cs.size) :
    netVx s0 s none i = netVx s0 s (some c) i + lam s0 s c * coef s0 i c := by
  unfold netVx
  rw [sum_range_split _ _ c hc]
  congr 2
  apply List.map_congr_left
  intro a _
  simp only [reduceCtorEq, if_false, Option.some.injEq]

theorem sum_filter_ite (L : List Nat) (p : Nat → Prop) [DecidablePred p] (g : Nat → Rat) :
    (L.map fun c => if p c then g c else 0).sum = ((L.filter (fun c => decide (p c))).map g).sum := by
  rw [List.sum_map_ite]
  simp

theorem sum_map_neg' {α : Type} (l : List α) (f : α → Rat) :
    (l.map fun p => - f p).sum = - (l.map f).sum := by
  rw [List.sum_neg, List.map_map]
  rfl

theorem perm_filter_range {L : List Nat} {n : Nat} {p : Nat → Prop} [DecidablePred p] (hnd : L.Nodup)
    (h : ∀ c, c ∈ L ↔ c < n ∧ p c) : L.Perm ((List.range n).filter (fun c => decide (p c))) := by
  rw [List.perm_ext_iff_of_nodup hnd (List.nodup_range.filter _)]
  intro c
  rw [List.mem_filter, List.mem_range, decide_eq_true_eq]
  exact h c

theorem cOut_perm {s0 : St} (hwf : WF s0) (hadj : AdjNodup s0) {v : Nat} (hv : v < s0.vs.size) :
    List.Perm (getV s0 v).cOut ((List.range s0.cs.size).filter (fun c => decide ((getC s0 c).l = v))) :=
  perm_filter_range (hadj v hv).1 fun c => ⟨hwf.out_sound v hv c, fun h => h.2 ▸ hwf.out_mem c h.1⟩

theorem cIn_perm {s0 : St} (hwf : WF s0) (hadj : AdjNodup s0) {v : Nat} (hv : v < s0.vs.size) :
    List.Perm (getV s0 v).cIn ((List.range s0.cs.size).filter (fun c => decide ((getC s0 c).r = v))) :=
  perm_filter_range (hadj v hv).2 fun c => ⟨hwf.in_sound v hv c, fun h => h.2 ▸ hwf.in_mem c h.1⟩

theorem edge_ne {s0 : St} (hf : Forest s0) {c v w : Nat} (he : IsEdge s0 c v w) : v ≠ w := by
  rintro rfl
  exact he.bridge hf (Conn.reflS _ _ _)

theorem nbr_sum {s0 : St} (hwf : WF s0) (hadj : AdjNodup s0) {v : Nat} (hv : v < s0.vs.size) (f : Nat → Rat) :
    ((neighbours s0 v).map fun p => f p.1 * coef s0 v p.1).sum =
      ((List.range s0.cs.size).map fun c => f c * coef s0 v c).sum := by
  -- a constraint counts once for each of its ends that is `v`; one with both ends in `v` has `coef = 0`
  have hterm : ∀ c, f c * coef s0 v c = (if (getC s0 c).l = v then f c * coef s0 v c else 0) +
      (if (getC s0 c).r = v then f c * coef s0 v c else 0) := by
    intro c
    by_cases hl : (getC s0 c).l = v <;> by_cases hr : (getC s0 c).r = v
    · rw [if_pos hl, if_pos hr, coef, if_pos hl, if_pos hr, sub_self, mul_zero, add_zero]
    · rw [if_pos hl, if_neg hr, add_zero]
    · rw [if_neg hl, if_pos hr, zero_add]
    · rw [if_neg hl, if_neg hr, coef_zero hl hr, mul_zero, add_zero]
  unfold neighbours
  simp only [List.map_append, List.sum_append, List.map_map, Function.comp_def]
  rw [List.map_congr_left (l := List.range s0.cs.size) fun c _ => hterm c, List.sum_map_add, sum_filter_ite, sum_filter_ite,
    ((cOut_perm hwf hadj hv).map _).sum_eq, ((cIn_perm hwf hadj hv).map _).sum_eq]

/-- `pe` is the constraint through which the traversal reached `v` from `u` (none at the root) -/
def ParentOK (s0 : St) (v : Nat) (u pe : Option Nat) : Prop :=
  (u = none ∧ pe = none) ∨ ∃ p e, u = some p ∧ pe = some e ∧ IsEdge s0 e p v

theorem _root_.Labella.Vpsc.IsEdge.end_cases {st : St} {e p v x : Nat} (h : IsEdge st e p v)
    (hx : (getC st e).l = x ∨ (getC st e).r = x) : x = p ∨ x = v := by
  rcases h.2.2 with ⟨rfl, rfl⟩ | ⟨rfl, rfl⟩ <;> rcases hx with rfl | rfl <;> simp

theorem nb_edge {s0 : St} (hwf : WFd s0) {v c w : Nat} (hv : v < s0.vs.size) (hm : (c, w) ∈ neighbours s0 v)
    (ha : (getC s0 c).active = true) : IsEdge s0 c v w := by
  obtain ⟨h1, _, h3⟩ := hwf.nb_sound hv hm
  exact ⟨h1, ha, h3⟩

theorem parent_iff {s0 : St} (hf : Forest s0) {v c w : Nat} {u pe : Option Nat} (hp : ParentOK s0 v u pe)
    (he : IsEdge s0 c v w) : u ≠ some w ↔ some c ≠ pe := by
  rcases hp with ⟨rfl, rfl⟩ | ⟨p, e, rfl, rfl, hpe⟩
  · simp
  · simp only [ne_eq, Option.some.injEq]
    constructor
    · intro hpw hce
      subst hce
      exact hpw (hpe.other_end he).symm
    · intro hce hpw
      subst hpw
      have hadj : Adj s0 (some e) v p := he.adj (by simpa using hce)
      exact hpe.bridge hf hadj.connS.symmS

theorem child_region {s0 : St} (hf : Forest s0) {v c w x : Nat} {u pe : Option Nat} (hp : ParentOK s0 v u pe)
    (he : IsEdge s0 c v w) (hne : some c ≠ pe) (h : Conn s0 (some c) w x) : Conn s0 pe v x ∧ x ≠ v := by
  refine ⟨?_, ?_⟩
  · rcases hp with ⟨_, rfl⟩ | ⟨p, e, _, rfl, hpe⟩
    · exact (he.adj (by simp)).connS.transS h.to_noneS
    · exact sub_nested hf hpe he (by simpa using fun e' => hne (by rw [e'])) h
  · rintro rfl
    exact he.bridge hf h.symmS

theorem region_cover {s0 : St} (hwf : WFd s0) (hf : Forest s0) {pe : Option Nat} {v x : Nat} (hv : v < s0.vs.size)
    (h : Conn s0 pe v x) :
    x = v ∨ ∃ p ∈ neighbours s0 v, (getC s0 p.1).active = true ∧ some p.1 ≠ pe ∧ Conn s0 (some p.1) p.2 x := by
  induction h with
  | refl => exact Or.inl rfl
  | @tail y z _ hyz ih =>
    rcases ih with rfl | ⟨⟨c, w⟩, hm, ha, hne, hc⟩
    · obtain ⟨c', hm', ha', _, hx'⟩ := hwf.nb_complete hyz
      exact Or.inr ⟨(c', z), hm', ha', hx', Conn.reflS _ _ _⟩
    · obtain ⟨c', hc', hx', ha', hlr'⟩ := hyz
      by_cases hcc : c' = c
      · subst hcc
        have he := nb_edge hwf hv hm ha
        simp only at he hc
        -- `y` is below `w` and an end of `c`, so `y = w`, and `c` leads from `w` back to `v`
        rcases he.end_cases (hlr'.elim (fun h => Or.inl h.1) (fun h => Or.inr h.2)) with rfl | rfl
        · exact absurd hc.symmS (he.bridge hf)
        · exact Or.inl (he.other_end ⟨hc', ha', hlr'⟩)
      · right
        exact ⟨(c, w), hm, ha, hne, Relation.ReflTransGen.tail hc ⟨c', hc', by simpa using hcc, ha', hlr'⟩⟩

theorem incident_below {s0 : St} {c w c2 y x : Nat} (hc2 : c2 < s0.cs.size) (ha : (getC s0 c2).active = true)
    (hne : c2 ≠ c) (hy : (getC s0 c2).l = y ∨ (getC s0 c2).r = y) (hx : (getC s0 c2).l = x ∨ (getC s0 c2).r = x)
    (h : Conn s0 (some c) w y) : Conn s0 (some c) w x := by
  by_cases hxy : x = y
  · rw [hxy]; exact h
  · refine Relation.ReflTransGen.tail h ⟨c2, hc2, by simpa using hne, ha, ?_⟩
    rcases hy with hy | hy <;> rcases hx with hx | hx
    · exact absurd (hx.symm.trans hy) hxy
    · exact Or.inl ⟨hy, hx⟩
    · exact Or.inr ⟨hx, hy⟩
    · exact absurd (hx.symm.trans hy) hxy

/-- the constraints `computeLm` writes when called on `v` with parent constraint `pe` -/
def Touched (s0 : St) (pe : Option Nat) (v c2 : Nat) : Prop :=
  (getC s0 c2).active = true ∧ some c2 ≠ pe ∧ (Conn s0 pe v (getC s0 c2).l ∨ Conn s0 pe v (getC s0 c2).r)

/-- … and while the entries `pre` of the neighbour list of `v` are processed -/
def TouchedPre (s0 : St) (pe : Option Nat) (pre : List (Nat × Nat)) (c2 : Nat) : Prop :=
  (getC s0 c2).active = true ∧ ∃ p ∈ pre, (getC s0 p.1).active = true ∧ some p.1 ≠ pe ∧
    (Conn s0 (some p.1) p.2 (getC s0 c2).l ∨ Conn s0 (some p.1) p.2 (getC s0 c2).r)

theorem touched_of_pre {s0 : St} (hwf : WFd s0) (hf : Forest s0) {v : Nat} (hv : v < s0.vs.size) {u pe : Option Nat}
    (hp : ParentOK s0 v u pe) {c2 : Nat} (h : TouchedPre s0 pe (neighbours s0 v) c2) : Touched s0 pe v c2 := by
  obtain ⟨ha2, ⟨c, w⟩, hm, ha, hne, hends⟩ := h
  have he := nb_edge hwf hv hm ha
  simp only at hne hends
  have hc2 : c2 < s0.cs.size := FrameAux.active_lt s0 c2 ha2
  refine ⟨ha2, ?_, ?_⟩
  · rintro rfl
    rcases hp with ⟨_, h0⟩ | ⟨p, e, _, h0, hpe⟩
    · exact absurd h0 (by simp)
    · simp only [Option.some.injEq] at h0
      subst h0
      -- both ends of the parent constraint would be below `w`
      have hne' : c2 ≠ c := fun e' => hne (by rw [e'])
      have hvb : Conn s0 (some c) w v := by
        rcases hends with h | h
        · exact incident_below hc2 ha2 hne' (Or.inl rfl) (by rcases hpe.2.2 with ⟨_, b⟩ | ⟨b, _⟩ <;> [exact Or.inr b; exact Or.inl b]) h
        · exact incident_below hc2 ha2 hne' (Or.inr rfl) (by rcases hpe.2.2 with ⟨_, b⟩ | ⟨b, _⟩ <;> [exact Or.inr b; exact Or.inl b]) h
      exact he.bridge hf hvb.symmS
  · rcases hends with h | h
    · exact Or.inl (child_region hf hp he hne h).1
    · exact Or.inr (child_region hf hp he hne h).1

theorem step_stable {s0 : St} {v c w x c2 : Nat} (he : IsEdge s0 c v w) (hx : ¬ Conn s0 (some c) w x) (hxv : x ≠ v)
    (hc2 : c2 < s0.cs.size) (ha : (getC s0 c2).active = true) (hi : (getC s0 c2).l = x ∨ (getC s0 c2).r = x) :
    c2 ≠ c ∧ ¬ Touched s0 (some c) w c2 := by
  have hne : c2 ≠ c := by
    rintro rfl
    rcases he.end_cases hi with rfl | rfl
    · exact hxv rfl
    · exact hx (Conn.reflS _ _ _)
  refine ⟨hne, ?_⟩
  rintro ⟨_, _, h | h⟩
  · exact hx (incident_below hc2 ha hne (Or.inl rfl) hi h)
  · exact hx (incident_below hc2 ha hne (Or.inr rfl) hi h)

theorem lmStep_err (fuel : Nat) (track : Bool) (v : Nat) (u : Option Nat) (acc : St × Option Nat × Rat) (p : Nat × Nat)
    (h : acc.1.err = true) : (lmStep fuel track v u acc p).1.err = true := by
  by_cases hc : ((getC acc.1 p.1).active && u != some p.2) = true
  · rw [(lmStep_pos fuel track v u acc p.1 p.2 hc _ rfl).1, setC_err]
    exact (computeLm_coreEq _ _ _ _ _ _).errmono h
  · rw [lmStep_neg fuel track v u acc p hc]
    exact h

theorem signed_coef {s0 : St} {c v w : Nat} (he : IsEdge s0 c v w) (hvw : v ≠ w) (D : Rat) :
    (if w == (getC s0 c).r then D else -D) * coef s0 v c = - (D * (getV s0 v).s) ∧
    (if w == (getC s0 c).r then D else -D) * coef s0 w c = D * (getV s0 w).s := by
  rcases he.2.2 with ⟨a1, a2⟩ | ⟨a1, a2⟩
  · rw [coef_left a1 (a2.trans_ne hvw.symm), coef_right (a1.trans_ne hvw) a2, a2, beq_self_eq_true, if_pos rfl]
    constructor <;> ring
  · rw [coef_right (a1.trans_ne hvw.symm) a2, coef_left a1 (a2.trans_ne hvw), a2, if_neg (by simpa using hvw.symm)]
    constructor <;> ring

theorem lmStep_taken {s0 : St} (fuel : Nat) (track : Bool) {v : Nat} (u : Option Nat) (acc : St × Option Nat × Rat) {c w : Nat}
    (h : ((getC acc.1 c).active && u != some w) = true) (sub : St × Option Nat × Rat)
    (hsub : sub = computeLm fuel acc.1 track acc.2.1 w (some v)) (hL : LmOnly s0 sub.1) (he : IsEdge s0 c v w) (hvw : v ≠ w) :
    (lmStep fuel track v u acc (c, w)).1.err = sub.1.err ∧ LmOnly s0 (lmStep fuel track v u acc (c, w)).1 ∧
    (∀ c2, (getC (lmStep fuel track v u acc (c, w)).1 c2).lm =
      if c2 = c then (if w == (getC s0 c).r then sub.2.2 else -sub.2.2) else (getC sub.1 c2).lm) ∧
    (lmStep fuel track v u acc (c, w)).2.2 = acc.2.2 + sub.2.2 * (getV s0 v).s := by
  obtain ⟨e1, e2⟩ := lmStep_pos fuel track v u acc c w h sub hsub
  rw [e1, e2]
  refine ⟨rfl, hL.setLm c _, fun c2 => ?_, ?_⟩
  · rw [getC_setC]
    by_cases h2 : c2 = c
    · rw [if_pos ⟨h2, hL.core.csize ▸ he.1⟩, if_pos h2, hL.r]
    · rw [if_neg (fun hh => h2 hh.1), if_neg h2]
  · simp only [hL.r, hL.l, hL.getV]
    rcases he.2.2 with ⟨a1, a2⟩ | ⟨a1, a2⟩
    · rw [a1, a2, beq_self_eq_true, if_pos rfl]
    · rw [a1, a2, if_neg (by simpa using hvw.symm)]

structure Post (s0 s : St) (pe : Option Nat) (v : Nat) (s' : St) (D : Rat) : Prop where
  lmo : LmOnly s0 s'
  untouched : ∀ c2, ¬ Touched s0 pe v c2 → (getC s' c2).lm = (getC s c2).lm
  below : ∀ x, Conn s0 pe v x → x ≠ v → netVx s0 s' none x = dfdv s0 x
  atv : netVx s0 s' pe v = dfdv s0 v - (getV s0 v).s * D

/-- `Post` after the prefix `pre` of the neighbour list of `v`, accumulator `(a, _, dv)`.  The point is `dv`: the running
sum starts at `dfdv v` and each child subtracts the multiplier just stored in its edge times `∂slack/∂x_v`; once all
neighbours are done the subtracted terms are `netVx … pe v`, which is `Post.atv`. -/
structure FoldInv (s0 s : St) (pe : Option Nat) (v : Nat) (pre : List (Nat × Nat)) (a : St) (dv : Rat) : Prop where
  lmo : LmOnly s0 a
  untouched : ∀ c2, ¬ TouchedPre s0 pe pre c2 → (getC a c2).lm = (getC s c2).lm
  below : ∀ p ∈ pre, (getC s0 p.1).active = true → some p.1 ≠ pe → ∀ x, Conn s0 (some p.1) p.2 x →
    netVx s0 a none x = dfdv s0 x
  dv : dv = dfdv s0 v - (pre.map fun p => (if some p.1 = pe then 0 else lam s0 a p.1) * coef s0 v p.1).sum

theorem TouchedPre.mono {s0 : St} {pe : Option Nat} {pre suf : List (Nat × Nat)} {c2 : Nat}
    (h : TouchedPre s0 pe pre c2) : TouchedPre s0 pe (pre ++ suf) c2 := by
  obtain ⟨h1, p, hp, h2⟩ := h
  exact ⟨h1, p, List.mem_append_left _ hp, h2⟩

theorem fold_step {s0 : St} (hinv : Inv s0) {track : Bool} {fuel : Nat}
    (ih : ∀ (s : St) (m : Option Nat) (v : Nat) (u pe : Option Nat), LmOnly s0 s → v < s0.vs.size → ParentOK s0 v u pe →
      (computeLm fuel s track m v u).1.err = false →
      Post s0 s pe v (computeLm fuel s track m v u).1 (computeLm fuel s track m v u).2.2)
    {s : St} {v : Nat} {u pe : Option Nat} (hv : v < s0.vs.size) (hp : ParentOK s0 v u pe)
    {pre : List (Nat × Nat)} {acc : St × Option Nat × Rat} (hacc : FoldInv s0 s pe v pre acc.1 acc.2.2)
    (hpm : ∀ p ∈ pre, p ∈ neighbours s0 v) {x : Nat × Nat} (hx : x ∈ neighbours s0 v)
    (hdist : ∀ p ∈ pre, NbDistinct s0 p x) (herr : (lmStep fuel track v u acc x).1.err = false) :
    FoldInv s0 s pe v (pre ++ [x]) (lmStep fuel track v u acc x).1 (lmStep fuel track v u acc x).2.2 := by
  obtain ⟨c, w⟩ := x
  have hwfd : WFd s0 := hinv.wf.toWFd
  have hf := hinv.toForest
  by_cases hcond : ((getC acc.1 c).active && u != some w) = true
  · have hcond' := hcond
    rw [Bool.and_eq_true, hacc.lmo.active, bne_iff_ne] at hcond'
    obtain ⟨hact, hprev⟩ := hcond'
    have he : IsEdge s0 c v w := nb_edge hwfd hv hx hact
    have hne : some c ≠ pe := (parent_iff hf hp he).1 hprev
    have hvw : v ≠ w := edge_ne hf he
    have hc : c < s0.cs.size := he.1
    obtain ⟨_, hw, _⟩ := hwfd.nb_sound hv hx
    obtain ⟨eerr, hL2, hlm, edv⟩ := lmStep_taken fuel track u acc hcond _ rfl (hacc.lmo.trans (computeLm_lmOnly _ _ _ _ _ _)) he hvw
    rw [eerr] at herr
    have P := ih acc.1 acc.2.1 w (some v) (some c) hacc.lmo hw (Or.inr ⟨v, c, rfl, rfl, he⟩) herr
    rw [edv]
    generalize (lmStep fuel track v u acc (c, w)).1 = s2 at hL2 hlm ⊢
    generalize computeLm fuel acc.1 track acc.2.1 w (some v) = sub at P hlm ⊢
    obtain ⟨s1, m1, D⟩ := sub
    simp only at P hlm ⊢
    have hlm_stable : ∀ c2, c2 ≠ c → ¬ Touched s0 (some c) w c2 → (getC s2 c2).lm = (getC acc.1 c2).lm := by
      intro c2 h1 h2
      rw [hlm, if_neg h1]
      exact P.untouched c2 h2
    have hearlier : ∀ p ∈ pre, (getC s0 p.1).active = true → ∀ x, Conn s0 (some p.1) p.2 x → ∀ c2, c2 < s0.cs.size →
        (getC s0 c2).active = true → (getC s0 c2).l = x ∨ (getC s0 c2).r = x → (getC s2 c2).lm = (getC acc.1 c2).lm := by
      rintro ⟨c', w'⟩ hpp hpa x hxc c2 hc2 ha2 hi
      have he' : IsEdge s0 c' v w' := nb_edge hwfd hv (hpm _ hpp) hpa
      have hcc : c' ≠ c := hdist _ hpp hpa hact
      obtain ⟨k1, k2⟩ := step_stable he (fun h => sub_disjoint hf he he' (fun e => hcc e.symm) h hxc)
        (fun e => he'.bridge hf (e ▸ hxc).symmS) hc2 ha2 hi
      exact hlm_stable c2 k1 k2
    have hLval := signed_coef he hvw D
    refine ⟨hL2, ?_, ?_, ?_⟩
    · intro c2 h
      have hne2 : c2 ≠ c := by
        rintro rfl
        apply h
        refine ⟨hact, (c2, w), List.mem_append_right _ (List.mem_singleton_self _), hact, hne, ?_⟩
        rcases he.2.2 with ⟨_, a2⟩ | ⟨a1, _⟩
        · right; rw [a2]; exact Conn.reflS _ _ _
        · left; rw [a1]; exact Conn.reflS _ _ _
      have hnt : ¬ Touched s0 (some c) w c2 := by
        rintro ⟨t1, _, t3⟩
        exact h ⟨t1, (c, w), List.mem_append_right _ (List.mem_singleton_self _), hact, hne, t3⟩
      rw [hlm_stable c2 hne2 hnt]
      exact hacc.untouched c2 (fun ht => h ht.mono)
    · intro p hpmem hpa hpne x hxc
      rcases List.mem_append.1 hpmem with hpp | hpp
      · rw [← hacc.below p hpp hpa hpne x hxc]
        exact netVx_congr fun c2 hc2 _ ha2 hi => hearlier p hpp hpa x hxc c2 hc2 ha2 hi
      · rw [List.mem_singleton] at hpp
        subst hpp
        simp only at hxc
        have hxv : x ≠ v := (child_region hf hp he hne hxc).2
        by_cases hxw : x = w
        · subst hxw
          rw [netVx_split s0 _ x c hc, lam_active hact, hlm, if_pos rfl, hLval.2]
          have : netVx s0 s2 (some c) x = netVx s0 s1 (some c) x := by
            apply netVx_congr
            intro c2 _ hc2ne _ _
            rw [hlm, if_neg (by simpa using hc2ne)]
          rw [this, P.atv]
          ring
        · rw [← P.below x hxc hxw]
          apply netVx_congr
          intro c2 hc2 _ ha2 hi
          rw [hlm, if_neg]
          rintro rfl
          exact (he.end_cases hi).elim hxv hxw
    · rw [hacc.dv, List.map_append, List.sum_append]
      have hpre : (pre.map fun p => (if some p.1 = pe then 0 else lam s0 s2 p.1) * coef s0 v p.1) =
          (pre.map fun p => (if some p.1 = pe then 0 else lam s0 acc.1 p.1) * coef s0 v p.1) := by
        apply List.map_congr_left
        rintro ⟨c', w'⟩ hpp
        simp only
        by_cases h1 : some c' = pe
        · rw [if_pos h1, if_pos h1]
        · rw [if_neg h1, if_neg h1]
          by_cases ha' : (getC s0 c').active = true
          · have he' : IsEdge s0 c' v w' := nb_edge hwfd hv (hpm _ hpp) ha'
            rw [lam_active ha', lam_active ha', hearlier (c', w') hpp ha' w' (Conn.reflS _ _ _) c' he'.1 ha'
              (he'.2.2.elim (fun a => Or.inr a.2) (fun a => Or.inl a.1))]
          · have ha'' : (getC s0 c').active = false := by simpa using ha'
            rw [lam_inactive ha'', lam_inactive ha'']
      rw [hpre]
      simp only [List.map_cons, List.map_nil, List.sum_cons, List.sum_nil]
      rw [if_neg hne, lam_active hact, hlm, if_pos rfl, hLval.1]
      ring
  · rw [lmStep_neg fuel track v u acc (c, w) hcond]
    -- the step is skipped: `c` is inactive or the parent constraint, and counts 0 either way
    have hskip : (getC s0 c).active = true → some c = pe := by
      intro ha
      by_contra h1
      apply hcond
      rw [Bool.and_eq_true, hacc.lmo.active, bne_iff_ne]
      exact ⟨ha, (parent_iff hf hp (nb_edge hwfd hv hx ha)).2 h1⟩
    refine ⟨hacc.lmo, fun c2 h => hacc.untouched c2 (fun ht => h ht.mono), ?_, ?_⟩
    · intro p hpmem hpa hpne x hxc
      rcases List.mem_append.1 hpmem with hpp | hpp
      · exact hacc.below p hpp hpa hpne x hxc
      · rw [List.mem_singleton] at hpp
        subst hpp
        exact absurd (hskip hpa) hpne
    · have : (if some c = pe then 0 else lam s0 acc.1 c) = 0 := by
        split_ifs with h1
        · rfl
        · exact lam_inactive (Bool.eq_false_iff.2 fun ha => h1 (hskip ha))
      rw [hacc.dv, List.map_append, List.sum_append, List.map_singleton, List.sum_singleton, this]
      ring

theorem computeLm_post {s0 : St} (hinv : Inv s0) (hadj : AdjNodup s0) (track : Bool) (fuel : Nat) :
    ∀ (s : St) (m : Option Nat) (v : Nat) (u pe : Option Nat), LmOnly s0 s → v < s0.vs.size → ParentOK s0 v u pe →
      (computeLm fuel s track m v u).1.err = false →
      Post s0 s pe v (computeLm fuel s track m v u).1 (computeLm fuel s track m v u).2.2 := by
  induction fuel with
  | zero =>
    intro s m v u pe _ _ _ herr
    rw [computeLm] at herr
    exact absurd herr (by simp)
  | succ fuel ih =>
    intro s m v u pe hs hv hp herr
    have hwfd : WFd s0 := hinv.wf.toWFd
    have hf := hinv.toForest
    rw [computeLm_succ] at herr ⊢
    simp only at herr ⊢
    rw [hs.neighbours, hs.dfdv] at herr ⊢
    have h0 : FoldInv s0 s pe v [] s (dfdv s0 v) :=
      ⟨hs, fun _ _ => rfl, fun p hp' => absurd hp' (List.not_mem_nil), by simp⟩
    have hpw := neighbours_pairwise hwfd hf hadj hv
    have FI := foldl_prefix (lmStep fuel track v u)
      (fun pre (acc : St × Option Nat × Rat) => acc.1.err = false → FoldInv s0 s pe v pre acc.1 acc.2.2)
      (neighbours s0 v) (s, m, dfdv s0 v) (fun _ => h0) (by
        intro pre x suf acc e hP herr'
        have hmem : ∀ y ∈ pre ++ x :: suf, y ∈ neighbours s0 v := fun y hy => by rw [e]; exact hy
        rw [e, List.pairwise_append] at hpw
        exact fold_step hinv ih hv hp (hP (err_false_of_imp (lmStep_err fuel track v u acc x) herr'))
          (fun p hp' => hmem p (List.mem_append_left _ hp')) (hmem x (List.mem_append_right _ List.mem_cons_self))
          (fun p hp' => hpw.2.2 p hp' x List.mem_cons_self) herr') herr
    generalize (neighbours s0 v).foldl (lmStep fuel track v u) (s, m, dfdv s0 v) = res at FI herr ⊢
    obtain ⟨s', m', dv⟩ := res
    simp only at FI herr ⊢
    refine ⟨FI.lmo, ?_, ?_, ?_⟩
    · intro c2 h
      exact FI.untouched c2 (fun ht => h (touched_of_pre hwfd hf hv hp ht))
    · intro x hx hxv
      rcases region_cover hwfd hf hv hx with h | ⟨p, hpm, hpa, hpne, hpc⟩
      · exact absurd h hxv
      · exact FI.below p hpm hpa hpne x hpc
    · have hsv : (getV s0 v).s ≠ 0 := hinv.wf.scale_ne v hv
      rw [FI.lmo.getV, mul_div_cancel₀ _ hsv, FI.dv]
      have hn := nbr_sum hinv.wf hadj hv (fun c => if some c = pe then 0 else lam s0 s' c)
      rw [hn]
      simp only [netVx, ite_mul, zero_mul]
      ring

end KKT
end Labella.Vpsc
