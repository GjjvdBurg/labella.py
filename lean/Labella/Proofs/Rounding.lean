import Labella.Model.Num
import Mathlib.Algebra.Order.Field.Rat
import Mathlib.Tactic.Ring
import Mathlib.Tactic.Linarith
import Mathlib.Tactic.NormNum
/-! `roundHalfEven` is within 1/2 of its argument and leaves integers alone -/
namespace Labella

theorem roundHalfEven_cases (x : ℚ) :
    (roundHalfEven x = x.floor ∧ x - x.floor ≤ 1 / 2) ∨ (roundHalfEven x = x.floor + 1 ∧ 1 / 2 ≤ x - x.floor) := by
  unfold roundHalfEven
  simp only
  split_ifs with a b c
  · exact Or.inl ⟨rfl, a.le⟩
  · exact Or.inr ⟨rfl, b.le⟩
  · exact Or.inl ⟨rfl, not_lt.mp b⟩
  · exact Or.inr ⟨rfl, not_lt.mp a⟩

theorem round_close' (x : ℚ) : |((roundHalfEven x : Int) : ℚ) - x| ≤ 1 / 2 := by
  rcases roundHalfEven_cases x with ⟨h, hd⟩ | ⟨h, hd⟩ <;> rw [h]
  · rw [abs_sub_comm, abs_of_nonneg (sub_nonneg.mpr (Rat.floor_le x))]
    exact hd
  · rw [abs_of_nonneg (sub_nonneg.mpr (Rat.lt_floor_add_one x).le)]
    push_cast
    linarith

theorem round_diff (x y : ℚ) :
    y - x - 1 ≤ ((roundHalfEven y : Int) : ℚ) - ((roundHalfEven x : Int) : ℚ) := by
  have hx := (abs_le.mp (round_close' x)).2
  have hy := (abs_le.mp (round_close' y)).1
  linarith only [hx, hy]

theorem roundHalfEven_intCast (z : Int) : roundHalfEven (z : ℚ) = z := by
  unfold roundHalfEven
  simp only [Rat.floor_intCast, sub_self]
  rw [if_pos (by norm_num)]

/-- a number with at most `d` decimals is its own rendering with `d` decimals -/
theorem roundHalfEven_mul_div (x : ℚ) (d : ℕ) (w : Int) (hw : x * (10 : ℚ) ^ d = (w : ℚ)) :
    ((roundHalfEven (x * (10 : ℚ) ^ d) : Int) : ℚ) / (10 : ℚ) ^ d = x := by
  rw [hw, roundHalfEven_intCast, ← hw]
  exact mul_div_cancel_right₀ x (pow_ne_zero d (by norm_num))

end Labella
