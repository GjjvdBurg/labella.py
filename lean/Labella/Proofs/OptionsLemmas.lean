import Labella.Model.Options
/-! # Helper lemmas for the object-graph model of `Timeline.__init__` (`Model/Options.lean`), used by `Props/C10.lean`

`construct` as a sequence of named steps (`constructFrom`), one equation per step for the dict table it leaves, and from these what the
constructor does to old cells, what `self.options` is made of, and which scale objects it writes. -/
namespace Labella.Options

theorem filterMap_congr_mem {α β : Type _} {f g : α → Option β} {l : List α} (h : ∀ a, a ∈ l → f a = g a) :
    l.filterMap f = l.filterMap g := by
  induction l with
  | nil => rfl
  | cons a l ih =>
    rw [List.filterMap_cons, List.filterMap_cons, h a (by simp), ih (fun b hb => h b (List.mem_cons_of_mem _ hb))]

theorem dget_nil (k : String) : dget [] k = none := rfl

theorem dget_cons (p : String × Val) (d : Dict) (k : String) :
    dget (p :: d) k = if p.1 = k then some p.2 else dget d k := by
  unfold dget
  by_cases h : p.1 = k <;> simp [h]

theorem dhas_nil (k : String) : dhas [] k = false := rfl

theorem dhas_cons (p : String × Val) (d : Dict) (k : String) :
    dhas (p :: d) k = (p.1 == k || dhas d k) := by
  simp [dhas, List.any_cons]

theorem dhas_eq_isSome (d : Dict) (k : String) : dhas d k = (dget d k).isSome := by
  induction d with
  | nil => rfl
  | cons p d ih =>
    rw [dhas_cons, dget_cons, ih]
    by_cases h : p.1 = k <;> simp [h]

theorem not_mem_of_dhas_false {d : Dict} {k : String} (h : dhas d k = false) (v : Val) : (k, v) ∉ d := by
  intro hm
  have : dhas d k = true := List.any_eq_true.2 ⟨_, hm, beq_self_eq_true k⟩
  rw [h] at this; cases this

theorem dget_eq_none_of_dhas_false {d : Dict} {k : String} (h : dhas d k = false) : dget d k = none := by
  rwa [dhas_eq_isSome, Option.isSome_eq_false_iff, Option.isNone_iff_eq_none] at h

theorem exists_dget_of_dhas {d : Dict} {k : String} (h : dhas d k = true) : ∃ v, dget d k = some v := by
  rwa [dhas_eq_isSome, Option.isSome_iff_exists] at h

/-- well-formed dict: no key occurs twice (what a Python dict guarantees) -/
def DictWF (d : Dict) : Prop := (d.map Prod.fst).Nodup

instance (d : Dict) : Decidable (DictWF d) := inferInstanceAs (Decidable (d.map Prod.fst).Nodup)

theorem dget_of_mem_of_wf {d : Dict} (hwf : DictWF d) {k : String} {v : Val} (h : (k, v) ∈ d) : dget d k = some v := by
  induction d with
  | nil => cases h
  | cons p d ih =>
    unfold DictWF at hwf
    rw [List.map_cons, List.nodup_cons] at hwf
    rw [dget_cons]
    rcases List.mem_cons.1 h with h | h
    · subst h; simp
    · have : ¬ p.1 = k := by
        intro hk
        apply hwf.1
        rw [hk]
        exact List.mem_map.2 ⟨(k, v), h, rfl⟩
      rw [if_neg this]
      exact ih hwf.2 h

theorem dget_map_set (d : Dict) (k : String) (v : Val) (k' : String) :
    dget (d.map (fun p => if p.1 == k then (k, v) else p)) k' =
      if k = k' then (if dhas d k then some v else none) else dget d k' := by
  induction d with
  | nil => simp [dget_nil, dhas_nil]
  | cons p d ih =>
    rw [List.map_cons, dget_cons, ih, dhas_cons, dget_cons]
    by_cases h1 : p.1 = k
    · subst h1
      by_cases h2 : p.1 = k' <;> simp [h2]
    · by_cases h2 : k = k'
      · subst h2
        simp [h1]
      · simp [h1, h2]

theorem dget_append (d e : Dict) (k : String) : dget (d ++ e) k = (dget d k).or (dget e k) := by
  induction d with
  | nil => simp [dget_nil]
  | cons p d ih =>
    rw [List.cons_append, dget_cons, dget_cons, ih]
    split <;> simp

theorem dget_dset (d : Dict) (k : String) (v : Val) (k' : String) :
    dget (dset d k v) k' = if k = k' then some v else dget d k' := by
  unfold dset
  by_cases h : dhas d k = true
  · rw [if_pos h, dget_map_set, h]; simp
  · rw [if_neg h, dget_append]
    have h' : dhas d k = false := by simpa using h
    by_cases hk : k = k'
    · subst hk
      rw [dget_eq_none_of_dhas_false h', dget_cons]; simp
    · rw [dget_cons, if_neg hk, if_neg hk, dget_nil]; simp

theorem dget_dset_self (d : Dict) (k : String) (v : Val) : dget (dset d k v) k = some v := by
  rw [dget_dset, if_pos rfl]

theorem dget_dset_ne (d : Dict) {k k' : String} (v : Val) (h : k ≠ k') : dget (dset d k v) k' = dget d k' := by
  rw [dget_dset, if_neg h]

theorem mem_dset {d : Dict} {k : String} {v : Val} {p : String × Val} (h : p ∈ dset d k v) : p ∈ d ∨ p = (k, v) := by
  unfold dset at h
  split at h
  · rcases List.mem_map.1 h with ⟨q, hq, rfl⟩
    split
    · exact Or.inr rfl
    · exact Or.inl hq
  · rcases List.mem_append.1 h with h | h
    · exact Or.inl h
    · exact Or.inr (by simpa using h)

theorem mem_dset_iff_of_ne {d : Dict} {k : String} {v : Val} {p : String × Val} (hk : p.1 ≠ k) : p ∈ dset d k v ↔ p ∈ d := by
  constructor
  · intro h
    rcases mem_dset h with h | h
    · exact h
    · subst h; exact absurd rfl hk
  · intro h
    unfold dset
    split
    · exact List.mem_map.2 ⟨p, h, by simp [hk]⟩
    · exact List.mem_append.2 (Or.inl h)

theorem dhas_dset (d : Dict) (k : String) (v : Val) (k' : String) :
    dhas (dset d k v) k' = (dhas d k' || decide (k = k')) := by
  rw [dhas_eq_isSome, dget_dset, dhas_eq_isSome]
  by_cases hk : k = k' <;> simp [hk]

theorem dupdate_nil (d : Dict) : dupdate d [] = d := rfl
theorem dupdate_cons (d : Dict) (p : String × Val) (e : Dict) : dupdate d (p :: e) = dupdate (dset d p.1 p.2) e := rfl

theorem mem_dupdate {d e : Dict} {p : String × Val} (h : p ∈ dupdate d e) : p ∈ d ∨ p ∈ e := by
  induction e generalizing d with
  | nil => exact Or.inl h
  | cons q e ih =>
    rw [dupdate_cons] at h
    rcases ih h with h | h
    · rcases mem_dset h with h | h
      · exact Or.inl h
      · exact Or.inr (by subst h; simp)
    · exact Or.inr (List.mem_cons_of_mem _ h)

theorem dget_dupdate_of_not_has {d e : Dict} {k : String} (h : dhas e k = false) : dget (dupdate d e) k = dget d k := by
  induction e generalizing d with
  | nil => rfl
  | cons q e ih =>
    rw [dhas_cons, Bool.or_eq_false_iff] at h
    have h1 : q.1 ≠ k := by simpa using h.1
    rw [dupdate_cons, ih h.2, dget_dset_ne _ _ h1]

theorem dget_dupdate_cases {d e : Dict} {k : String} {v : Val} (h : dget (dupdate d e) k = some v) :
    (dhas e k = false ∧ dget d k = some v) ∨ (k, v) ∈ e := by
  induction e generalizing d with
  | nil => exact Or.inl ⟨rfl, h⟩
  | cons q e ih =>
    rw [dupdate_cons] at h
    rcases ih h with ⟨h1, h2⟩ | h1
    · rw [dget_dset] at h2
      split at h2
      · rename_i hk
        cases h2
        right; subst hk; simp
      · rename_i hk
        left
        refine ⟨?_, h2⟩
        rw [dhas_cons, h1]; simp [hk]
    · exact Or.inr (List.mem_cons_of_mem _ h1)

theorem Heap.dict_allocDict (h : Heap) (d : Dict) (j : Nat) :
    (h.allocDict d).1.dict j = if j = h.dicts.size then d else h.dict j := by
  simp only [Heap.dict, Heap.allocDict, Array.getD_eq_getD_getElem?, Array.getElem?_push]
  split <;> simp_all

theorem Heap.dict_allocDict_lt (h : Heap) (d : Dict) {j : Nat} (hj : j < h.dicts.size) : (h.allocDict d).1.dict j = h.dict j := by
  rw [Heap.dict_allocDict, if_neg (Nat.ne_of_lt hj)]

@[simp] theorem Heap.allocDict_snd (h : Heap) (d : Dict) : (h.allocDict d).2 = h.dicts.size := rfl
@[simp] theorem Heap.size_allocDict (h : Heap) (d : Dict) : (h.allocDict d).1.dicts.size = h.dicts.size + 1 := by
  simp [Heap.allocDict]
@[simp] theorem Heap.scales_allocDict (h : Heap) (d : Dict) : (h.allocDict d).1.scales = h.scales := rfl

theorem Heap.dict_setDict (h : Heap) (o : Nat) (d : Dict) (j : Nat) :
    (h.setDict o d).dict j = if j = o ∧ o < h.dicts.size then d else h.dict j := by
  simp only [Heap.dict, Heap.setDict, Array.getD_eq_getD_getElem?, Array.getElem?_setIfInBounds]
  by_cases h1 : o = j
  · subst h1
    by_cases h2 : o < h.dicts.size <;> simp [h2]
  · have : ¬ (j = o ∧ o < h.dicts.size) := fun hh => h1 hh.1.symm
    simp [h1, this]

@[simp] theorem Heap.size_setDict (h : Heap) (o : Nat) (d : Dict) : (h.setDict o d).dicts.size = h.dicts.size := by
  simp [Heap.setDict]
@[simp] theorem Heap.scales_setDict (h : Heap) (o : Nat) (d : Dict) : (h.setDict o d).scales = h.scales := rfl

@[simp] theorem Heap.dicts_allocScale (h : Heap) (t : String) : (h.allocScale t).1.dicts = h.dicts := rfl
@[simp] theorem Heap.dict_allocScale (h : Heap) (t : String) (j : Nat) : (h.allocScale t).1.dict j = h.dict j := rfl
@[simp] theorem Heap.allocScale_snd (h : Heap) (t : String) : (h.allocScale t).2 = h.scales.size := rfl
@[simp] theorem Heap.scales_allocScale (h : Heap) (t : String) : (h.allocScale t).1.scales = h.scales.push t := rfl

/-- `match x with | some (.dict l) => A l | _ => B` as a function (so that the steps below and `construct` can be compared syntactically) -/
def caseDict {α : Sort u} (x : Option Val) (A : Nat → α) (B : α) : α := match x with | some (.dict l) => A l | _ => B
def caseScale {α : Sort u} (x : Option Val) (A : Nat → α) (B : α) : α := match x with | some (.scale s) => A s | _ => B

/-- the `match … with | some (.dict l) => … | _ => …` expressions inside `construct` (its auxiliary matcher `construct.match_3`).
Lean numbers the matchers of a definition as it meets them: an edit of `construct` that adds, removes or reorders a `match`
renumbers `match_3` and `match_6`, and these two lemmas have to follow -/
theorem construct_match_dict {α : Sort u} (x : Option Val) (A : Nat → α) (B : α) :
    construct.match_3 (fun _ => α) x A (fun _ => B) = caseDict x A B := by
  cases x with | none => rfl | some v => cases v <;> rfl
/-- the `match … with | some (.scale s) => … | _ => …` expression inside `construct` (its auxiliary matcher `construct.match_6`) -/
theorem construct_match_scale {α : Sort u} (x : Option Val) (A : Nat → α) (B : α) :
    construct.match_6 (fun _ => α) x A (fun _ => B) = caseScale x A B := by
  cases x with | none => rfl | some v => cases v <;> rfl

/-- `latex_opts`: a copy of the module's latex dict, updated with the caller's `latex` dict if there is one -/
def latexOf (h : Heap) (o : Nat) : Dict :=
  caseDict (dget (h.dict o) "latex") (fun l => dupdate (h.dict idLatex) (h.dict l)) (h.dict idLatex)

/-- `options["latex"] = latex_opts` (a new dict object, id = the old number of dicts) -/
def writeBack (h : Heap) (o : Nat) : Heap :=
  let r := h.allocDict (latexOf h o)
  r.1.setDict o (dset (r.1.dict o) "latex" (.dict r.2))

/-- `self.options = shallow copy of DEFAULT_OPTIONS; self.options.update(options)` (id = the old number of dicts) -/
def mkSelf (h : Heap) (o : Nat) : Heap := (h.allocDict (dupdate (h.dict idDefaults) (h.dict o))).1

/-- `if "scale" not in options: self.options["scale"] = TimeScale()` -/
def freshScale (h : Heap) (o S : Nat) : Heap :=
  if dhas (h.dict o) "scale" then h else
    let r := h.allocScale "fresh"
    r.1.setDict S (dset (r.1.dict S) "scale" (.scale r.2))

/-- `self.options["labella"] = dict(self.options["labella"]); self.options["labella"]["direction"] = self.direction` -/
def ownLabella (h : Heap) (S : Nat) : Heap :=
  let labSrc := caseDict (dget (h.dict S) "labella") (fun l => h.dict l) []
  let dir := (dget (h.dict S) "direction").getD (.atom "right")
  let r := h.allocDict (dset labSrc "direction" dir)
  r.1.setDict S (dset (r.1.dict S) "labella" (.dict r.2))

/-- `init_axis`: the timeline's scale object gets the data's domain -/
def setDomain (h : Heap) (S : Nat) (dom : String) : Heap :=
  caseScale (dget (h.dict S) "scale") (fun s => { h with scales := h.scales.setIfInBounds s dom }) h

/-- everything after `if options is None: options = {}` -/
def constructFrom (h : Heap) (o : Nat) (dom : String) : Heap × Nat :=
  let h2 := writeBack h o
  let S := h2.dicts.size
  let h3 := mkSelf h2 o
  let h4 := freshScale h3 o S
  let h5 := ownLabella h4 S
  (setDomain h5 S dom, S)

theorem construct_some (h : Heap) (o : Nat) (dom : String) : construct h (some o) dom = constructFrom h o dom := by
  unfold construct
  simp -zeta only [construct_match_dict, construct_match_scale]
  rfl
theorem construct_none (h : Heap) (dom : String) :
    construct h none dom = constructFrom (h.allocDict []).1 h.dicts.size dom := by
  unfold construct
  simp -zeta only [construct_match_dict, construct_match_scale]
  rfl

@[simp] theorem size_writeBack (h : Heap) (o : Nat) : (writeBack h o).dicts.size = h.dicts.size + 1 := by
  simp [writeBack]
@[simp] theorem scales_writeBack (h : Heap) (o : Nat) : (writeBack h o).scales = h.scales := rfl
theorem dict_writeBack (h : Heap) {o : Nat} (ho : o < h.dicts.size) (j : Nat) :
    (writeBack h o).dict j =
      if j = o then dset (h.dict o) "latex" (.dict h.dicts.size) else if j = h.dicts.size then latexOf h o else h.dict j := by
  have h1 : o < h.dicts.size + 1 := by omega
  simp only [writeBack, Heap.dict_setDict, Heap.size_allocDict, Heap.allocDict_snd, h1, and_true, Heap.dict_allocDict,
    if_neg (Nat.ne_of_lt ho)]

@[simp] theorem size_mkSelf (h : Heap) (o : Nat) : (mkSelf h o).dicts.size = h.dicts.size + 1 := by simp [mkSelf]
@[simp] theorem scales_mkSelf (h : Heap) (o : Nat) : (mkSelf h o).scales = h.scales := rfl
theorem dict_mkSelf (h : Heap) (o j : Nat) :
    (mkSelf h o).dict j = if j = h.dicts.size then dupdate (h.dict idDefaults) (h.dict o) else h.dict j :=
  Heap.dict_allocDict _ _ _

@[simp] theorem size_freshScale (h : Heap) (o S : Nat) : (freshScale h o S).dicts.size = h.dicts.size := by
  unfold freshScale; split <;> simp
theorem scales_freshScale (h : Heap) (o S : Nat) :
    (freshScale h o S).scales = if dhas (h.dict o) "scale" then h.scales else h.scales.push "fresh" := by
  unfold freshScale; split <;> rfl
theorem dict_freshScale (h : Heap) (o : Nat) {S : Nat} (hS : S < h.dicts.size) (j : Nat) :
    (freshScale h o S).dict j =
      if j = S ∧ dhas (h.dict o) "scale" = false then dset (h.dict S) "scale" (.scale h.scales.size) else h.dict j := by
  unfold freshScale
  cases dhas (h.dict o) "scale" with
  | true => simp
  | false => simp [Heap.dict_setDict, hS]

@[simp] theorem size_ownLabella (h : Heap) (S : Nat) : (ownLabella h S).dicts.size = h.dicts.size + 1 := by simp [ownLabella]
@[simp] theorem scales_ownLabella (h : Heap) (S : Nat) : (ownLabella h S).scales = h.scales := rfl
theorem dict_ownLabella (h : Heap) {S j : Nat} (hS : S < h.dicts.size) (hj : j < h.dicts.size) :
    (ownLabella h S).dict j = if j = S then dset (h.dict S) "labella" (.dict h.dicts.size) else h.dict j := by
  have h1 : S < h.dicts.size + 1 := by omega
  simp only [ownLabella, Heap.dict_setDict, Heap.size_allocDict, Heap.allocDict_snd, h1, and_true, Heap.dict_allocDict_lt _ _ hS,
    Heap.dict_allocDict_lt _ _ hj]

theorem setDomain_eq (h : Heap) (S : Nat) (dom : String) :
    setDomain h S dom = h ∨ ∃ s, dget (h.dict S) "scale" = some (.scale s) ∧
      setDomain h S dom = { h with scales := h.scales.setIfInBounds s dom } := by
  unfold setDomain
  cases hx : dget (h.dict S) "scale" with
  | none => exact Or.inl rfl
  | some v =>
    cases v with
    | scale s => exact Or.inr ⟨s, rfl, rfl⟩
    | atom _ => exact Or.inl rfl
    | dict _ => exact Or.inl rfl

@[simp] theorem dicts_setDomain (h : Heap) (S : Nat) (dom : String) : (setDomain h S dom).dicts = h.dicts := by
  rcases setDomain_eq h S dom with e | ⟨s, _, e⟩ <;> rw [e]
@[simp] theorem dict_setDomain (h : Heap) (S : Nat) (dom : String) (j : Nat) : (setDomain h S dom).dict j = h.dict j := by
  simp [Heap.dict]
@[simp] theorem size_scales_setDomain (h : Heap) (S : Nat) (dom : String) : (setDomain h S dom).scales.size = h.scales.size := by
  rcases setDomain_eq h S dom with e | ⟨s, _, e⟩ <;> rw [e]
  simp
theorem scales_setDomain_ne (h : Heap) (S : Nat) (dom : String) {s : Nat} (hs : dget (h.dict S) "scale" ≠ some (.scale s)) :
    (setDomain h S dom).scales[s]? = h.scales[s]? := by
  rcases setDomain_eq h S dom with e | ⟨s', hs', e⟩ <;> rw [e]
  have : s' ≠ s := by rintro rfl; exact hs hs'
  simp [this]

/-! #### the constructor after `if options is None: options = {}`: with `n` dicts before, the new objects are `n` (the merged latex dict),
`n + 1` (`self.options`) and `n + 2` (the timeline's own `labella` dict) -/

section From
variable (h : Heap) (o : Nat) (dom : String)

@[simp] theorem constructFrom_snd : (constructFrom h o dom).2 = h.dicts.size + 1 := by simp [constructFrom]
@[simp] theorem size_constructFrom : (constructFrom h o dom).1.dicts.size = h.dicts.size + 3 := by simp [constructFrom]

theorem constructFrom_fst :
    (constructFrom h o dom).1 =
      setDomain (ownLabella (freshScale (mkSelf (writeBack h o) o) o (h.dicts.size + 1)) (h.dicts.size + 1)) (h.dicts.size + 1) dom := by
  simp [constructFrom]

variable {h o}

theorem dict_constructFrom_lt {j : Nat} (hj : j < h.dicts.size + 1) :
    (constructFrom h o dom).1.dict j = (writeBack h o).dict j := by
  rw [constructFrom_fst, dict_setDomain, dict_ownLabella _ (by simp) (by simp; omega), if_neg (by omega),
    dict_freshScale _ _ (by simp), if_neg (fun hh => by omega), dict_mkSelf, if_neg (by simp; omega)]

theorem dict_constructFrom_latex (ho : o < h.dicts.size) : (constructFrom h o dom).1.dict h.dicts.size = latexOf h o := by
  rw [dict_constructFrom_lt dom (by omega), dict_writeBack _ ho, if_neg (by omega), if_pos rfl]

/-- the later steps see the caller's `scale` entry as it was: the write-back touched `latex` only -/
theorem dhas_scale_mkSelf_writeBack (ho : o < h.dicts.size) :
    dhas ((mkSelf (writeBack h o) o).dict o) "scale" = dhas (h.dict o) "scale" := by
  rw [dict_mkSelf, if_neg (by simp; omega), dict_writeBack _ ho, if_pos rfl, dhas_dset]
  simp

theorem dict_mkSelf_writeBack_self :
    (mkSelf (writeBack h o) o).dict (h.dicts.size + 1) = dupdate ((writeBack h o).dict idDefaults) ((writeBack h o).dict o) := by
  rw [dict_mkSelf, if_pos (by simp)]

theorem dict_constructFrom_self (ho : o < h.dicts.size) :
    (constructFrom h o dom).1.dict (h.dicts.size + 1) =
      dset (if dhas (h.dict o) "scale" then (mkSelf (writeBack h o) o).dict (h.dicts.size + 1)
        else dset ((mkSelf (writeBack h o) o).dict (h.dicts.size + 1)) "scale" (.scale h.scales.size))
        "labella" (.dict (h.dicts.size + 2)) := by
  rw [constructFrom_fst, dict_setDomain, dict_ownLabella _ (by simp) (by simp), if_pos rfl, dict_freshScale _ _ (by simp),
    dhas_scale_mkSelf_writeBack ho]
  cases dhas (h.dict o) "scale" <;> simp

theorem mem_writeBack_dict {j : Nat} (ho : o < h.dicts.size) (hj : j < h.dicts.size) {p : String × Val} (hp : p ∈ (writeBack h o).dict j) :
    p ∈ h.dict j ∨ p = ("latex", .dict h.dicts.size) := by
  rw [dict_writeBack _ ho, if_neg (Nat.ne_of_lt hj)] at hp
  split at hp
  · subst j; exact mem_dset hp
  · exact Or.inl hp

theorem mem_dict_constructFrom_self (ho : o < h.dicts.size) (h0 : idDefaults < h.dicts.size) {p : String × Val}
    (hp : p ∈ (constructFrom h o dom).1.dict (h.dicts.size + 1)) :
    p ∈ h.dict idDefaults ∨ p ∈ h.dict o ∨ p = ("latex", .dict h.dicts.size) ∨ p = ("labella", .dict (h.dicts.size + 2)) ∨
      p = ("scale", .scale h.scales.size) := by
  have merged {q} (hq : p ∈ (mkSelf (writeBack h o) o).dict (h.dicts.size + 1)) :
      p ∈ h.dict idDefaults ∨ p ∈ h.dict o ∨ p = ("latex", .dict h.dicts.size) ∨ q := by
    rw [dict_mkSelf_writeBack_self] at hq
    rcases mem_dupdate hq with hq | hq
    · exact (mem_writeBack_dict ho h0 hq).elim Or.inl fun e => Or.inr (Or.inr (Or.inl e))
    · exact Or.inr ((mem_writeBack_dict ho ho hq).imp_right Or.inl)
  rw [dict_constructFrom_self dom ho] at hp
  rcases mem_dset hp with hp | rfl
  · split at hp
    · exact merged hp
    · rcases mem_dset hp with hp | rfl
      · exact merged hp
      · exact Or.inr (Or.inr (Or.inr (Or.inr rfl)))
  · exact Or.inr (Or.inr (Or.inr (Or.inl rfl)))

theorem size_scales_constructFrom (ho : o < h.dicts.size) :
    (constructFrom h o dom).1.scales.size = if dhas (h.dict o) "scale" then h.scales.size else h.scales.size + 1 := by
  rw [constructFrom_fst, size_scales_setDomain, scales_ownLabella, scales_freshScale, dhas_scale_mkSelf_writeBack ho]
  split <;> simp

theorem dget_scale_constructFrom (ho : o < h.dicts.size) :
    dget ((constructFrom h o dom).1.dict (h.dicts.size + 1)) "scale" =
      if dhas (h.dict o) "scale" then dget ((mkSelf (writeBack h o) o).dict (h.dicts.size + 1)) "scale" else some (.scale h.scales.size) := by
  rw [dict_constructFrom_self dom ho, dget_dset_ne _ _ (by decide)]
  split
  · rfl
  · rw [dget_dset_self]

theorem scales_constructFrom_of_not_mem (ho : o < h.dicts.size) {s : Nat} (hlt : s < h.scales.size)
    (hs : ("scale", Val.scale s) ∉ h.dict o) :
    (constructFrom h o dom).1.scales[s]? = h.scales[s]? := by
  have hd : dget ((constructFrom h o dom).1.dict (h.dicts.size + 1)) "scale" ≠ some (.scale s) := by
    rw [dget_scale_constructFrom dom ho]
    split
    · rename_i hh
      rw [dict_mkSelf_writeBack_self]
      intro he
      rcases dget_dupdate_cases he with ⟨h1, _⟩ | h1
      · rw [dict_writeBack _ ho, if_pos rfl, dhas_dset, hh] at h1
        cases h1
      · rcases mem_writeBack_dict ho ho h1 with h1 | h1
        · exact hs h1
        · exact Val.noConfusion (congrArg Prod.snd h1)
    · intro he; cases he; omega
  rw [constructFrom_fst, dict_setDomain] at hd
  rw [constructFrom_fst, scales_setDomain_ne _ _ _ hd, scales_ownLabella, scales_freshScale]
  split
  · rfl
  · simp [Array.getElem?_push, Nat.ne_of_lt hlt]

end From

/-- `construct` is `constructFrom` on the caller's dict, or on a new empty dict if the caller gave none; the heap `h0` it starts
from then is `h` with at most that empty dict added -/
theorem exists_constructFrom_eq (h : Heap) (opts : Option Nat) (dom : String) (ho : ∀ o, opts = some o → o < h.dicts.size) :
    ∃ h0 o, construct h opts dom = constructFrom h0 o dom ∧ o < h0.dicts.size ∧ h.dicts.size ≤ h0.dicts.size ∧
      (∀ j, j < h.dicts.size → h0.dict j = h.dict j) ∧ h0.scales = h.scales ∧
      ((opts = some o ∧ h0 = h) ∨ (opts = none ∧ o = h.dicts.size ∧ h0.dict o = [] ∧ h0.dicts.size = h.dicts.size + 1)) := by
  cases opts with
  | some o =>
    exact ⟨h, o, construct_some h o dom, ho o rfl, Nat.le_refl _, fun _ _ => rfl, rfl, Or.inl ⟨rfl, rfl⟩⟩
  | none =>
    refine ⟨(h.allocDict []).1, h.dicts.size, construct_none h dom, by simp, by simp, fun j hj => Heap.dict_allocDict_lt _ _ hj, rfl,
      Or.inr ⟨rfl, rfl, by rw [Heap.dict_allocDict, if_pos rfl], by simp⟩⟩

section Construct
variable {h : Heap} {opts : Option Nat} (dom : String) (ho : ∀ o, opts = some o → o < h.dicts.size)
include ho

/-- the new objects follow the old ones: `self.options` has at least one new dict before it and exactly one after it -/
theorem construct_sizes :
    h.dicts.size + 1 ≤ (construct h opts dom).2 ∧ (construct h opts dom).1.dicts.size = (construct h opts dom).2 + 2 := by
  obtain ⟨h0, o, he, _, hle, _⟩ := exists_constructFrom_eq h opts dom ho
  rw [he, constructFrom_snd, size_constructFrom]
  omega

theorem construct_dict_of_ne {j : Nat} (hj : j < h.dicts.size) (hne : opts ≠ some j) : (construct h opts dom).1.dict j = h.dict j := by
  obtain ⟨h0, o, he, ho', hle, hsame, _, hc⟩ := exists_constructFrom_eq h opts dom ho
  have hjo : j ≠ o := by
    rintro rfl
    rcases hc with ⟨h1, _⟩ | ⟨_, h1, _⟩
    · exact hne h1
    · omega
  rw [he, dict_constructFrom_lt dom (by omega), dict_writeBack _ ho', if_neg hjo, if_neg (by omega), hsame j hj]

theorem construct_dict_caller {o : Nat} (hopts : opts = some o) :
    ∃ L, h.dicts.size ≤ L ∧ L < (construct h opts dom).1.dicts.size ∧ (construct h opts dom).1.dict o = dset (h.dict o) "latex" (.dict L) := by
  subst hopts
  rw [construct_some]
  refine ⟨h.dicts.size, Nat.le_refl _, by simp, ?_⟩
  rw [dict_constructFrom_lt dom (by have := ho o rfl; omega), dict_writeBack _ (ho o rfl), if_pos rfl]

theorem construct_scales_size_le : h.scales.size ≤ (construct h opts dom).1.scales.size := by
  obtain ⟨h0, o, he, ho', _, _, hsc, _⟩ := exists_constructFrom_eq h opts dom ho
  rw [he, ← hsc, size_scales_constructFrom dom ho']
  split <;> omega

theorem construct_scales_of_not_mem {s : Nat} (hlt : s < h.scales.size) (hs : ∀ o, opts = some o → ("scale", Val.scale s) ∉ h.dict o) :
    (construct h opts dom).1.scales[s]? = h.scales[s]? := by
  obtain ⟨h0, o, he, ho', _, _, hsc, hc⟩ := exists_constructFrom_eq h opts dom ho
  rw [he, ← hsc]
  apply scales_constructFrom_of_not_mem dom ho' (by rw [hsc]; exact hlt)
  rcases hc with ⟨h1, h2⟩ | ⟨_, _, h2, _⟩
  · rw [h2]; exact hs o h1
  · rw [h2]; simp

theorem construct_fresh_scale (hs : ∀ o, opts = some o → dhas (h.dict o) "scale" = false) :
    dget ((construct h opts dom).1.dict (construct h opts dom).2) "scale" = some (.scale h.scales.size) ∧
      (construct h opts dom).1.scales.size = h.scales.size + 1 := by
  obtain ⟨h0, o, he, ho', _, _, hsc, hc⟩ := exists_constructFrom_eq h opts dom ho
  have hs0 : dhas (h0.dict o) "scale" = false := by
    rcases hc with ⟨h1, h2⟩ | ⟨_, _, h2, _⟩
    · rw [h2]; exact hs o h1
    · rw [h2]; rfl
  rw [he, constructFrom_snd, ← hsc, dget_scale_constructFrom dom ho', size_scales_constructFrom dom ho', hs0]
  exact ⟨rfl, rfl⟩

theorem mem_construct_self (h0 : idDefaults < h.dicts.size) {p : String × Val}
    (hp : p ∈ (construct h opts dom).1.dict (construct h opts dom).2) :
    p ∈ h.dict idDefaults ∨ (∃ o, opts = some o ∧ p ∈ h.dict o) ∨
      (∃ r, p.2 = .dict r ∧ h.dicts.size ≤ r ∧ r < (construct h opts dom).1.dicts.size) ∨ (∃ s, p.2 = .scale s) := by
  obtain ⟨h1, o, he, ho', hle, hsame, hsc, hc⟩ := exists_constructFrom_eq h opts dom ho
  rw [he, constructFrom_snd] at hp
  rw [he, size_constructFrom]
  rcases mem_dict_constructFrom_self dom ho' (Nat.lt_of_lt_of_le h0 hle) hp with hp | hp | rfl | rfl | rfl
  · rw [hsame _ h0] at hp; exact Or.inl hp
  · rcases hc with ⟨h2, h3⟩ | ⟨_, _, h3, _⟩
    · rw [h3] at hp; exact Or.inr (Or.inl ⟨o, h2, hp⟩)
    · rw [h3] at hp; cases hp
  · exact Or.inr (Or.inr (Or.inl ⟨h1.dicts.size, rfl, hle, by omega⟩))
  · exact Or.inr (Or.inr (Or.inl ⟨h1.dicts.size + 2, rfl, by omega, by omega⟩))
  · exact Or.inr (Or.inr (Or.inr ⟨_, rfl⟩))

end Construct

theorem view_congr {h h' : Heap} {S : Nat} (hd : h'.dict S = h.dict S)
    (hrefs : ∀ k r, (k, Val.dict r) ∈ h.dict S → h'.dict r = h.dict r)
    (hs : ∀ s, dget (h.dict S) "scale" = some (.scale s) → h'.scales[s]? = h.scales[s]?) :
    view h' S = view h S := by
  unfold view
  simp only [hd]
  refine Prod.ext rfl (Prod.ext ?_ ?_)
  · apply filterMap_congr_mem
    rintro ⟨k, v⟩ hp
    cases v with
    | atom _ => rfl
    | scale _ => rfl
    | dict r => simp only [hrefs k r hp]
  · cases hx : dget (h.dict S) "scale" with
    | none => rfl
    | some v =>
      cases v with
      | scale s => exact hs s hx
      | atom _ => rfl
      | dict _ => rfl

end Labella.Options
