import Labella.Model.Scale
import Batteries.Data.String.Lemmas
import Std.Data.String.ToNat
import Mathlib.Algebra.Order.Field.Rat
import Mathlib.Tactic.Ring
import Mathlib.Tactic.Linarith
import Mathlib.Tactic.FieldSimp
import Mathlib.Tactic.NormNum
import Mathlib.Data.List.Nodup
/-! Helper lemmas for `Props/C13`: `parseDecimal` reads the text produced by `formatFixed` back as the printed value.

The `String`-level facts needed (legacy `String.splitOn "."`, `startsWith "-"`, `drop 1`, `toNat?` of a zero-padded
digit string) are reduced to `List Char` facts here. -/
set_option linter.deprecated false

namespace String

theorem dot_get : Pos.Raw.get "." 0 = '.' := by
  simpa using get_of_valid [] ['.']

theorem dot_next : Pos.Raw.next "." 0 = ⟨'.'.utf8Size⟩ := by
  simpa using next_of_valid [] '.' []

theorem dot_atEnd : Pos.Raw.atEnd "." ⟨'.'.utf8Size⟩ = true := by
  simpa using (atEnd_of_valid ['.'] []).2 rfl

theorem splitOnAux_dot (l m r : List Char) (acc : List String) :
    splitOnAux (ofList (l ++ m ++ r)) "." ⟨utf8Len l⟩ ⟨utf8Len l + utf8Len m⟩ 0 acc =
      acc.reverse ++ (List.splitOnPPrepend (· == '.') r m.reverse).map ofList := by
  induction r generalizing l m acc with
  | nil =>
    have h1 : Pos.Raw.atEnd (ofList (l ++ m ++ [])) ⟨utf8Len l + utf8Len m⟩ = true := by
      simpa using (atEnd_of_valid (l ++ m) []).2 rfl
    rw [splitOnAux, if_pos h1, extract_of_valid l m []]
    simp
  | cons c r ih =>
    rw [splitOnAux]
    have h1 : ¬ Pos.Raw.atEnd (ofList (l ++ m ++ c :: r)) ⟨utf8Len l + utf8Len m⟩ = true := by
      simpa using (atEnd_of_valid (l ++ m) (c :: r)).not
    rw [if_neg h1]
    have hg : Pos.Raw.get (ofList (l ++ m ++ c :: r)) ⟨utf8Len l + utf8Len m⟩ = c := by
      simpa using get_of_valid (l ++ m) (c :: r)
    have hn : Pos.Raw.next (ofList (l ++ m ++ c :: r)) ⟨utf8Len l + utf8Len m⟩ =
        ⟨utf8Len l + utf8Len m + c.utf8Size⟩ := by
      simpa using next_of_valid (l ++ m) c r
    have hu : (⟨utf8Len l + utf8Len m⟩ : Pos.Raw).unoffsetBy 0 = ⟨utf8Len l + utf8Len m⟩ := by simp
    rw [hg, dot_get, hu, hn]
    simp only [dot_next, dot_atEnd, if_true]
    by_cases hc : c = '.'
    · subst hc
      have hu2 : (⟨utf8Len l + utf8Len m + '.'.utf8Size⟩ : Pos.Raw).unoffsetBy ⟨'.'.utf8Size⟩ =
          ⟨utf8Len l + utf8Len m⟩ := by
        simp [Pos.Raw.ext_iff]
      have he := extract_of_valid l m ('.' :: r)
      simp only [beq_self_eq_true, if_true, hu2, he]
      simpa [List.splitOnPPrepend_cons_eq_if, Nat.add_assoc] using ih (l ++ m ++ ['.']) [] (ofList m :: acc)
    · have hb : (c == '.') = false := by simpa using hc
      simp only [hb, Bool.false_eq_true, if_false]
      simpa [List.splitOnPPrepend_cons_eq_if, hb, Nat.add_assoc] using ih l (m ++ [c]) acc

theorem splitOn_dot (s : String) : s.splitOn "." = (s.toList.splitOnP (· == '.')).map ofList := by
  simpa [splitOn] using splitOnAux_dot [] [] s.toList []

end String

namespace Labella.Scale
open Labella

theorem ne_of_isDigit {c x : Char} (h : c.isDigit = true) (hx : x.isDigit = false) : c ≠ x := by
  rintro rfl
  rw [hx] at h
  cases h

theorem toNat?_ofList_digits (l : List Char) (h : ∀ c ∈ l, c.isDigit = true) (hne : l ≠ []) :
    (String.ofList l).toNat? = some (Nat.ofDigitChars 10 l 0) := by
  have h1 : (String.ofList l).isNat = true :=
    String.isNat_of_isDigit (by simpa using hne) (by simpa using h)
  have : List.filter (fun x => x != '_') l = l :=
    List.filter_eq_self.mpr fun c hc => by simpa using ne_of_isDigit (h c hc) (x := '_') rfl
  rw [String.toNat?_eq_some_ofDigitChars h1]
  simp [this]

/-- the fractional digits: `fp` left-padded with zeros to width `d` -/
def padL (d fp : Nat) : List Char := List.replicate (d - (Nat.toDigits 10 fp).length) '0' ++ Nat.toDigits 10 fp

theorem isDigit_toDigits {n : Nat} {c : Char} (hc : c ∈ Nat.toDigits 10 n) : c.isDigit = true :=
  Nat.isDigit_of_mem_toDigits (by omega) (by omega) hc

theorem isDigit_padL {d fp : Nat} {c : Char} (hc : c ∈ padL d fp) : c.isDigit = true := by
  rw [padL, List.mem_append] at hc
  rcases hc with hc | hc
  · rw [List.mem_replicate] at hc; rw [hc.2]; decide
  · exact isDigit_toDigits hc

theorem padL_ne_nil (d fp : Nat) : padL d fp ≠ [] := by
  simp [padL, Nat.toDigits_ne_nil]

theorem length_padL {d fp : Nat} (hd : 0 < d) (h : fp < 10 ^ d) : (padL d fp).length = d := by
  have := (Nat.length_toDigits_le_iff (b := 10) (n := fp) (by omega) hd).2 h
  simp [padL]; omega

theorem ofDigitChars_padL (d fp : Nat) : Nat.ofDigitChars 10 (padL d fp) 0 = fp := by
  rw [padL, Nat.ofDigitChars_append, Nat.ofDigitChars_replicate_zero, Nat.mul_zero,
    Nat.ofDigitChars_ten_toDigits]

theorem not_dot_of_isDigit {c : Char} (h : c.isDigit = true) : (c == '.') = false := by
  simpa using ne_of_isDigit h (x := '.') rfl

theorem parseDecimal_of_toList (s : String) (neg : Bool) (ip fp d : Nat) (hfp : fp < 10 ^ d)
    (hs : s.toList = (if neg then ['-'] else []) ++ Nat.toDigits 10 ip ++
      (if d = 0 then [] else '.' :: padL d fp)) :
    parseDecimal s = some (if neg then -((ip : Rat) + (fp : Rat) / (10 : Rat) ^ d)
      else ((ip : Rat) + (fp : Rat) / (10 : Rat) ^ d)) := by
  obtain ⟨c0, t0, h0⟩ := List.exists_cons_of_ne_nil (Nat.toDigits_ne_nil (n := ip) (b := 10))
  have hc0 : c0.isDigit = true := isDigit_toDigits (n := ip) (by rw [h0]; simp)
  have hneg : s.startsWith "-" = neg := by
    cases neg
    · rw [String.startsWith_string_eq_false_iff, hs, h0]
      simpa using (ne_of_isDigit hc0 (x := '-') rfl).symm
    · rw [String.startsWith_string_iff, hs]
      simp
  have hbody : (if s.startsWith "-" = true then (s.drop 1).toString else s) =
      String.ofList (Nat.toDigits 10 ip ++ (if d = 0 then [] else '.' :: padL d fp)) := by
    rw [hneg, ← String.toList_inj, String.toList_ofList]
    cases neg
    · simpa using hs
    · simp [String.Slice.toString_eq, hs]
  unfold parseDecimal
  simp only [hbody, String.splitOn_dot, String.toList_ofList]
  have hnd : ∀ x ∈ Nat.toDigits 10 ip, (x == '.') = false := fun x hx => not_dot_of_isDigit (isDigit_toDigits hx)
  have hip : (String.ofList (Nat.toDigits 10 ip)).toNat? = some ip := by
    rw [← Nat.repr_eq_ofList_toDigits]; exact Nat.toNat?_repr ip
  by_cases hd : d = 0
  · subst hd
    have : fp = 0 := by simpa using hfp
    subst this
    simp only [if_true, List.append_nil, List.splitOnP_eq_singleton hnd, List.map_cons, List.map_nil, hip, hneg]
    cases neg <;> simp
  · have hnd2 : ∀ x ∈ padL d fp, (x == '.') = false := fun x hx => not_dot_of_isDigit (isDigit_padL hx)
    have hfp2 : (String.ofList (padL d fp)).toNat? = some fp := by
      rw [toNat?_ofList_digits _ (fun c hc => isDigit_padL hc) (padL_ne_nil d fp), ofDigitChars_padL]
    simp only [if_neg hd, List.splitOnP_append_cons_of_forall_mem hnd '.' (by simp),
      List.splitOnP_eq_singleton hnd2, List.map_cons, List.map_nil, hip, hfp2, hneg,
      String.length_ofList, length_padL (Nat.pos_of_ne_zero hd) hfp]
    cases neg <;> simp

theorem toList_formatFixed (x : ℚ) (d : ℕ) :
    (formatFixed x d).toList =
      (if decide (roundHalfEven (x * (10 : ℚ) ^ d) < 0) then ['-'] else []) ++
        Nat.toDigits 10 ((roundHalfEven (x * (10 : ℚ) ^ d)).natAbs / 10 ^ d) ++
        (if d = 0 then [] else '.' :: padL d ((roundHalfEven (x * (10 : ℚ) ^ d)).natAbs % 10 ^ d)) := by
  unfold formatFixed padL
  simp only [Nat.toString_eq_repr, String.toList_append, Nat.toList_repr]
  generalize roundHalfEven (x * (10 : ℚ) ^ d) = z
  by_cases hd : d = 0
  · by_cases hn : z < 0 <;> simp [hd, hn]
  · by_cases hn : z < 0 <;> simp [hd, hn, ← String.length_toList]

theorem natCast_div_add_mod (n b : ℕ) (hb : (b : ℚ) ≠ 0) : ((n / b : ℕ) : ℚ) + ((n % b : ℕ) : ℚ) / b = n / b := by
  rw [eq_div_iff hb, add_mul, div_mul_cancel₀ _ hb]
  exact_mod_cast Nat.div_add_mod' n b

theorem parseDecimal_formatFixed (x : ℚ) (d : ℕ) :
    parseDecimal (formatFixed x d) = some (fixedValue d x) := by
  have hpos : 0 < 10 ^ d := Nat.pos_of_ne_zero (by positivity)
  rw [parseDecimal_of_toList _ _ _ _ d (Nat.mod_lt _ hpos) (toList_formatFixed x d)]
  unfold fixedValue
  generalize roundHalfEven (x * (10 : ℚ) ^ d) = z
  have h10 : ((10 ^ d : ℕ) : ℚ) ≠ 0 := by positivity
  have hn := natCast_div_add_mod z.natAbs (10 ^ d) h10
  rw [Nat.cast_pow, Nat.cast_ofNat] at hn
  rw [hn, Nat.cast_natAbs]
  congr 1
  by_cases hz : z < 0
  · rw [if_pos (by simpa using hz), abs_of_neg hz, Int.cast_neg, neg_div, neg_neg]
  · rw [if_neg (by simpa using hz), abs_of_nonneg (not_lt.mp hz)]

theorem textsOKB_map (step : ℚ) (hstep : 0 ≤ step) (l : List ℚ) (hnd : l.Nodup) (f : ℚ → String)
    (hf : ∀ x ∈ l, parseDecimal (f x) = some x) : textsOKB step l (l.map f) = true := by
  unfold textsOKB
  simp only [Bool.and_eq_true]
  refine ⟨⟨by simp, ?_⟩, ?_⟩
  · simp only [List.length_map, List.all_eq_true, List.mem_range, Bool.or_eq_true, beq_iff_eq,
      bne_iff_ne, ne_eq]
    intro i hi j hj
    by_cases hij : i = j
    · exact Or.inl hij
    · right
      rw [List.getElem?_map, List.getElem?_map, List.getElem?_eq_getElem hi, List.getElem?_eq_getElem hj]
      simp only [Option.map_some, Option.some.injEq]
      intro h
      have h1 := hf _ (List.getElem_mem hi)
      have h2 := hf _ (List.getElem_mem hj)
      rw [h, h2, Option.some.injEq] at h1
      exact hij ((hnd.getElem_inj_iff).1 h1.symm)
  · rw [← List.map_prod_left_eq_zip, List.all_map, List.all_eq_true]
    intro x hx
    simp only [Function.comp_apply, hf x hx, sub_self, decide_eq_true_eq]
    have : ratAbs 0 = 0 := by simp [ratAbs]
    rw [this]; exact div_nonneg hstep (by norm_num)

end Labella.Scale
