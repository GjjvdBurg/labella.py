import Labella.Proofs.VpscFuel
import Mathlib.Algebra.BigOperators.Group.Finset.Basic
/-! # The `satisfy` loop on path graphs only merges, hence ends after at most `cs.size ≤ vs.size` iterations

A *path state* (`IsPathSt`): every constraint joins two consecutive variables `i`, `i + 1`, and no two constraints join the same pair.

* `IsPathSt.not_conn`: an inactive constraint of a path state has its two ends in different components of the active graph (a walk from
  a variable `≤ l` to a variable `≥ l + 1` has to use a constraint that joins `l` and `l + 1`, and there is only one);
* hence an iteration of the `while` loop of `Solver.satisfy` takes the MERGE branch (`satStep_path_eq`), which makes exactly one more
  constraint active (`nact_merge`); `mostViolated` changes no constraint;
* `PGood X` is what the loop is entered with at every iteration, for any further property `X` of the state that `mostViolated` and a
  merge across a violated constraint keep (`Kept X`); the number of active constraints is at most `cs.size ≤ vs.size`, so the test of
  the loop fails at some iteration `k ≤ cs.size`, `satisfy` with more loop fuel than there are variables returns the state of that
  iteration (`path_satisfy_eq`) and raises no `err` (`path_satisfy_noerr`). -/
namespace Labella.Vpsc

def IsPathSt (st : St) : Prop :=
  (∀ c, c < st.cs.size → (getC st c).r = (getC st c).l + 1 ∧ (getC st c).r < st.vs.size) ∧
  ∀ c c', c < st.cs.size → c' < st.cs.size → (getC st c).l = (getC st c').l → c = c'

theorem IsPathSt.of_frame {st st' : St} (h : Frame st st') (hp : IsPathSt st) : IsPathSt st' := by
  obtain ⟨h1, h2⟩ := hp
  refine ⟨fun c hc => ?_, fun c c' hc hc' e => ?_⟩
  · rw [h.csize] at hc
    rw [(h.cstat c).1, (h.cstat c).2.1, h.vsize]
    exact h1 c hc
  · rw [h.csize] at hc hc'
    rw [(h.cstat c).1, (h.cstat c').1] at e
    exact h2 c c' hc hc' e

theorem IsPathSt.csize_le {st : St} (hp : IsPathSt st) : st.cs.size ≤ st.vs.size := by
  -- `c ↦ l_c` maps the constraints one-to-one into the variables
  have := Finset.card_le_card_of_injOn (s := Finset.range st.cs.size) (t := Finset.range st.vs.size) (fun c => (getC st c).l)
    (fun c hc => by
      have := hp.1 c (Finset.mem_range.1 (Finset.mem_coe.1 hc))
      exact Finset.mem_coe.2 (Finset.mem_range.2 (show (getC st c).l < st.vs.size by omega)))
    (fun c hc c' hc' e => hp.2 c c' (Finset.mem_range.1 (Finset.mem_coe.1 hc)) (Finset.mem_range.1 (Finset.mem_coe.1 hc')) e)
  simpa using this

theorem IsPathSt.adj_side {st : St} (hp : IsPathSt st) {v : Nat} (hv : v < st.cs.size)
    (ha : (getC st v).active = false) {a b : Nat} (h : Adj st none a b) :
    (a ≤ (getC st v).l ↔ b ≤ (getC st v).l) := by
  obtain ⟨ci, hci, _, hact, he⟩ := h
  have hr := (hp.1 ci hci).1
  have hne : (getC st ci).l ≠ (getC st v).l := by
    intro e
    have := hp.2 ci v hci hv e
    subst this
    rw [ha] at hact
    cases hact
  rcases he with ⟨rfl, rfl⟩ | ⟨rfl, rfl⟩ <;> omega

theorem IsPathSt.conn_side {st : St} (hp : IsPathSt st) {v : Nat} (hv : v < st.cs.size)
    (ha : (getC st v).active = false) {a b : Nat} (h : Conn st none a b) :
    (a ≤ (getC st v).l ↔ b ≤ (getC st v).l) := by
  unfold Conn at h
  induction h with
  | refl => exact Iff.rfl
  | tail _ hbc ih => exact ih.trans (hp.adj_side hv ha hbc)

theorem IsPathSt.not_conn {st : St} (hp : IsPathSt st) {v : Nat} (hv : v < st.cs.size)
    (ha : (getC st v).active = false) : ¬ Conn st none (getC st v).l (getC st v).r := by
  intro hc
  have := hp.conn_side hv ha hc
  have hr := (hp.1 v hv).1
  omega

theorem path_block_ne (st : St) (v : Nat) (hinv : Inv st) (hp : IsPathSt st) (hv : v < st.cs.size)
    (ha : (getC st v).active = false) : (getV st (getC st v).l).block ≠ (getV st (getC st v).r).block := by
  obtain ⟨hl, hr⟩ := hinv.wf.lr v hv
  intro e
  exact hp.not_conn hv ha ((hinv.comps _ _ hl hr).1 e)

theorem satStep_path_eq (st : St) (v : Nat) (hinv : Inv st) (hp : IsPathSt st) (hv : v < st.cs.size)
    (ha : (getC st v).active = false) : (satStep st v).1 = mergeBlocks st v := by
  have hb := path_block_ne st v hinv hp hv ha
  unfold satStep
  dsimp only
  rw [if_pos (bne_iff_ne.2 hb)]

def nact (st : St) : Nat := ((Finset.range st.cs.size).filter fun c => (getC st c).active = true).card

theorem nact_le (st : St) : nact st ≤ st.cs.size :=
  (Finset.card_filter_le _ _).trans (Finset.card_range _).le

theorem nact_merge (st : St) (v : Nat) (hinv : Inv st) (hnd : VarsNodup st) (hv : v < st.cs.size)
    (ha : (getC st v).active = false) (hb : (getV st (getC st v).l).block ≠ (getV st (getC st v).r).block) :
    nact (mergeBlocks st v) = nact st + 1 := by
  have hM := mergeBlocks_inv st v hinv hnd hv ha hb
  have hF := hM.frame
  have h4 := hM.active_ci
  have h5 := hM.active_ne
  unfold nact
  have e : (Finset.range st.cs.size).filter (fun c => (getC (mergeBlocks st v) c).active = true) =
      insert v ((Finset.range st.cs.size).filter fun c => (getC st c).active = true) := by
    ext c
    rw [Finset.mem_insert, Finset.mem_filter, Finset.mem_filter, Finset.mem_range]
    by_cases hcv : c = v
    · rw [hcv, h4]; exact ⟨fun _ => Or.inl rfl, fun _ => ⟨hv, rfl⟩⟩
    · rw [h5 c hcv, or_iff_right hcv]
  rw [hF.csize, e, Finset.card_insert_of_notMem]
  rw [Finset.mem_filter, ha]
  exact fun h => Bool.false_ne_true h.2

theorem nact_mv (st : St) : nact (mostViolated st).1 = nact st := by
  unfold nact
  simp only [mostViolated_getC]
  rw [(mostViolated_spec st).cs_eq]

/-- `X` is kept by the two steps the `satisfy` loop performs on a path: `mostViolated`, and a merge across a violated constraint -/
structure Kept (X : St → Prop) : Prop where
  mv : ∀ st, WF st → X st → X (mostViolated st).1
  merge : ∀ st v, Inv2 st → IsPathSt st → v < st.cs.size → (getC st v).active = false → (getC st v).unsat = false →
    slack st v < 0 → X st → X (mergeBlocks st v)

/-- what the `while` loop of `satisfy` is entered with at each iteration, on a path -/
def PGood (X : St → Prop) (p : St × Option Nat) : Prop :=
  ∃ st0, p = mostViolated st0 ∧ Inv2 st0 ∧ Covered st0 none ∧ IsPathSt st0 ∧ st0.err = false ∧ X st0

theorem PGood.step {X : St → Prop} (hX : Kept X) {p : St × Option Nat} (hg : PGood X p) (hc : satCond p = true) :
    PGood X (satNext p) ∧ nact (satNext p).1 = nact p.1 + 1 ∧ (satNext p).1.cs.size = p.1.cs.size := by
  obtain ⟨st0, rfl, h, hcov, hp, herr, hx⟩ := hg
  unfold satCond at hc
  cases hmv : (mostViolated st0).2 with
  | none => rw [hmv] at hc; cases hc
  | some v =>
    rw [hmv] at hc
    simp only at hc
    obtain ⟨h1, cs, hv, hact, hun⟩ := mostViolated_pre st0 h hcov v hmv hc
    have herr0 : (mostViolated st0).1.err = false := by rw [mostViolated_err]; exact herr
    have hp0 : IsPathSt (mostViolated st0).1 := hp.of_frame (mostViolated_frame st0 h.inv.wf)
    -- the loop tests `slack < ZERO_UPPERBOUND`; `Kept.merge` asks only for `slack < 0`, weaker because `ZERO_UPPERBOUND ≤ 0`
    have hviol : slack (mostViolated st0).1 v < 0 := by
      rw [Bool.and_eq_true, decide_eq_true_eq] at hc
      exact lt_of_lt_of_le hc.1 zeroUpperBound_nonpos
    obtain ⟨_, t1, t3, serr, t4⟩ := satStep_spec (mostViolated st0).1 v h1 cs hv hact herr0
    have hnext : satNext (mostViolated st0) = mostViolated (satStep (mostViolated st0).1 v).1 := by
      simp only [satNext, hmv]
    have hmerge := satStep_path_eq _ v h1.inv hp0 hv hact
    rw [hnext]
    refine ⟨⟨_, rfl, t1, t3, hp0.of_frame t4, serr, ?_⟩, ?_, ?_⟩
    · rw [hmerge]
      exact hX.merge _ v h1 hp0 hv hact hun hviol (hX.mv st0 h.inv.wf hx)
    · rw [nact_mv, hmerge]
      exact nact_merge _ v h1.inv h1.nd hv hact (path_block_ne _ v h1.inv hp0 hv hact)
    · rw [(mostViolated_frame _ t1.inv.wf).csize, t4.csize]

theorem PGood.iter {X : St → Prop} (hX : Kept X) (k : Nat) : ∀ (p : St × Option Nat), PGood X p →
    (∀ j, j < k → satCond (satIter j p) = true) →
    PGood X (satIter k p) ∧ nact (satIter k p).1 = nact p.1 + k ∧ (satIter k p).1.cs.size = p.1.cs.size := by
  induction k with
  | zero => exact fun p hg _ => ⟨hg, rfl, rfl⟩
  | succ k ih =>
    intro p hg h
    obtain ⟨g1, n1, s1⟩ := hg.step hX (h 0 (Nat.succ_pos k))
    obtain ⟨g2, n2, s2⟩ := ih (satNext p) g1 (fun j hj => h (j + 1) (Nat.succ_lt_succ hj))
    rw [satIter]
    exact ⟨g2, by rw [n2, n1]; omega, s2.trans s1⟩

theorem PGood.start {X : St → Prop} (st : St) (h : Inv2 st) (hcov : Covered st none) (herr : st.err = false)
    (hp : IsPathSt st) (hx : X (blocksSplit st)) : PGood X (satStart st) ∧ (satStart st).1.cs.size = st.cs.size := by
  obtain ⟨e1, h2, hcov2, t4⟩ := blocksSplit_inv2 st h hcov herr
  refine ⟨⟨blocksSplit st, rfl, h2, hcov2, hp.of_frame t4, e1, hx⟩, ?_⟩
  unfold satStart
  rw [(mostViolated_frame _ h2.inv.wf).csize, t4.csize]

theorem path_satisfy_eq {X : St → Prop} (hX : Kept X) (st : St) (h : Inv2 st) (hcov : Covered st none)
    (herr : st.err = false) (hp : IsPathSt st) (hx : X (blocksSplit st)) (sfuel : Nat) (hf : st.vs.size < sfuel) :
    ∃ k, satisfy sfuel st = (satIter k (satStart st)).1 ∧ PGood X (satIter k (satStart st)) := by
  obtain ⟨g0, s0⟩ := PGood.start st h hcov herr hp hx
  -- every iteration whose test succeeds makes one more constraint active, so the test fails at one of the first `cs.size + 1` iterations
  have hex : ∃ k, satCond (satIter k (satStart st)) = false ∧ k ≤ st.cs.size := by
    by_contra hno
    have hall : ∀ j, j < st.cs.size + 1 → satCond (satIter j (satStart st)) = true := fun j hj =>
      Bool.eq_true_of_not_eq_false fun hc => hno ⟨j, hc, by omega⟩
    obtain ⟨_, n, s⟩ := PGood.iter hX (st.cs.size + 1) (satStart st) g0 hall
    have hle := nact_le (satIter (st.cs.size + 1) (satStart st)).1
    omega
  obtain ⟨hstop, hk⟩ := Nat.find_spec hex
  have hbefore : ∀ j, j < Nat.find hex → satCond (satIter j (satStart st)) = true := fun j hj =>
    Bool.eq_true_of_not_eq_false fun hc => Nat.find_min hex hj ⟨hc, (Nat.le_of_lt hj).trans hk⟩
  exact ⟨_, satisfy_eq_iter sfuel st h hcov herr _ (by have := hp.csize_le; omega) hbefore hstop, (PGood.iter hX _ _ g0 hbefore).1⟩

theorem path_satisfy_noerr (st : St) (h : Inv2 st) (hcov : Covered st none) (herr : st.err = false)
    (hp : IsPathSt st) (sfuel : Nat) (hf : st.vs.size < sfuel) : (satisfy sfuel st).err = false := by
  obtain ⟨k, e, st0, e0, _, _, _, herr0, _⟩ :=
    path_satisfy_eq (X := fun _ => True) ⟨fun _ _ _ => trivial, fun _ _ _ _ _ _ _ _ _ => trivial⟩ st h hcov herr hp trivial sfuel hf
  rw [e, e0, mostViolated_err]
  exact herr0

theorem path_solveLoop_err_outer (sfuel n : Nat) : ∀ (st : St) (lc c : Rat), Inv2 st → Covered st none →
    st.err = false → IsPathSt st → st.vs.size < sfuel → (solveLoop n sfuel st lc c).1.err = true →
    ∀ k, k < n → solveCond (solveIter sfuel k (st, lc, c)) = true := by
  induction n with
  | zero => exact fun _ _ _ _ _ _ _ _ _ k hk => absurd hk (Nat.not_lt_zero k)
  | succ n ih =>
    intro st lc c h hcov herr hp hf he
    rw [solveLoop] at he
    by_cases hc : ratAbs (lc - c) > Gen.solveCostTolerance
    · rw [if_pos hc] at he
      have h1 := path_satisfy_noerr st h hcov herr hp sfuel hf
      obtain ⟨h2, hcov2, _, hF⟩ := satisfy_inv2 sfuel st h hcov h1
      have hr := ih _ c _ h2 hcov2 h1 (hp.of_frame hF) (by rw [hF.vsize]; exact hf) he
      intro k hk
      cases k with
      | zero => simpa [solveIter, solveCond] using hc
      | succ k => exact hr k (Nat.lt_of_succ_lt_succ hk)
    · rw [if_neg hc, herr] at he
      cases he

theorem path_solve_err_outer (fuel sfuel : Nat) (st : St) (h : Inv2 st) (hcov : Covered st none) (herr : st.err = false)
    (hp : IsPathSt st) (hf : st.vs.size < sfuel) (he : (solve fuel sfuel st).1.err = true) :
    ∀ k, k < fuel → solveCond (solveIter sfuel k (solveStart sfuel st)) = true := by
  have h1 := path_satisfy_noerr st h hcov herr hp sfuel hf
  obtain ⟨h2, hcov2, _, hF⟩ := satisfy_inv2 sfuel st h hcov h1
  exact path_solveLoop_err_outer sfuel fuel _ _ _ h2 hcov2 h1 (hp.of_frame hF) (by rw [hF.vsize]; exact hf) he

theorem perm_neighbours_path {gaps : List Rat} {cons : List (Nat × Nat × Rat)}
    (hperm : cons.Perm (gaps.zipIdx.map fun p => (p.2, p.2 + 1, p.1))) :
    (∀ c ∈ cons, c.1 < gaps.length ∧ c.2.1 = c.1 + 1) ∧ (cons.map (·.1)).Nodup := by
  constructor
  · intro c hc
    obtain ⟨p, hp, rfl⟩ := List.mem_map.1 (hperm.subset hc)
    exact ⟨(List.getElem?_eq_some_iff.mp (List.mem_zipIdx_iff_getElem?.mp hp)).1, rfl⟩
  · have e : (gaps.zipIdx.map fun p => (p.2, p.2 + 1, p.1)).map (·.1) = List.range gaps.length := by
      apply List.ext_getElem <;> simp
    exact (hperm.map (·.1)).nodup_iff.mpr (e ▸ List.nodup_range)

theorem init_isPathSt (vars : List (Rat × Rat × Rat)) (cons : List (Nat × Nat × Rat))
    (hidx : ∀ c ∈ cons, c.1 < vars.length ∧ c.2.1 < vars.length) (hs : ∀ v ∈ vars, v.2.2 ≠ 0)
    (hpath : ∀ c ∈ cons, c.2.1 = c.1 + 1) (hnd : (cons.map (·.1)).Nodup) : IsPathSt (init vars cons) := by
  obtain ⟨_, _, _, i4, i5, _, i7⟩ := init_inv vars cons hidx hs
  refine ⟨fun c hc => ?_, fun c c' hc hc' e => ?_⟩
  · rw [i5] at hc
    obtain ⟨a1, a2, _⟩ := i7 c hc
    rw [a1, a2, i4]
    exact ⟨hpath _ (List.getElem_mem hc), (hidx _ (List.getElem_mem hc)).2⟩
  · rw [i5] at hc hc'
    rw [(i7 c hc).1, (i7 c' hc').1] at e
    have hc1 : c < (cons.map (·.1)).length := by simpa using hc
    have hc2 : c' < (cons.map (·.1)).length := by simpa using hc'
    have e' : (cons.map (·.1))[c] = (cons.map (·.1))[c'] := by simpa using e
    exact (List.Nodup.getElem_inj_iff hnd).1 e'

end Labella.Vpsc
