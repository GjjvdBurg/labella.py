import Labella.Proofs.VpscLoops
/-! # Fuel of the transliterated VPSC solver is immaterial

* Fuel monotonicity (`satisfyLoop_fuel_add`, `satisfy_fuel_mono`, `solveLoop_fuel_add`, `solve_fuel_mono`): a run that ended with
  `err = false` is independent of the fuel it was given — more fuel returns the very same state.  No invariant is needed.
* No traversal and no split pass raises `err` (`VpscLoops.lean`); `err` after `satisfy` / `solve` can therefore only come from
  `satisfyLoop` / `solveLoop` reaching fuel `0`. -/
namespace Labella.Vpsc

/-! ## Fuel monotonicity -/

theorem satisfyLoop_fuel_add : ∀ (fuel : Nat) (st : St) (mv : Option Nat), (satisfyLoop fuel st mv).err = false →
    ∀ k, satisfyLoop (fuel + k) st mv = satisfyLoop fuel st mv := by
  intro fuel
  induction fuel with
  | zero => intro st mv h; rw [satisfyLoop] at h; cases h
  | succ fuel ih =>
    intro st mv h k
    rw [Nat.add_right_comm]
    cases mv with
    | none => rw [satisfyLoop, satisfyLoop]
    | some v =>
      rw [satisfyLoop_succ] at h ⊢
      rw [satisfyLoop_succ]
      by_cases hc : (slack st v < Gen.zeroUpperBound && !(getC st v).active) = true
      · rw [if_pos hc] at h ⊢
        rw [if_pos hc]
        by_cases h2 : (satStep st v).2 = true
        · rw [if_pos h2] at h ⊢
          rw [if_pos h2]
          exact ih _ _ h k
        · rw [if_neg h2, if_neg h2]
      · rw [if_neg hc, if_neg hc]

theorem satisfy_fuel_add (sfuel : Nat) (st : St) (h : (satisfy sfuel st).err = false) (k : Nat) :
    satisfy (sfuel + k) st = satisfy sfuel st := by
  unfold satisfy at h ⊢
  exact satisfyLoop_fuel_add sfuel _ _ h k

theorem satisfy_fuel_mono (sfuel : Nat) (st : St) (h : (satisfy sfuel st).err = false) :
    ∀ sfuel', sfuel ≤ sfuel' → satisfy sfuel' st = satisfy sfuel st := by
  intro sfuel' hle
  obtain ⟨k, rfl⟩ := Nat.exists_eq_add_of_le hle
  exact satisfy_fuel_add sfuel st h k

theorem satisfy_err_antimono (sfuel : Nat) (st : St) (h : (satisfy sfuel st).err = true) :
    ∀ sfuel', sfuel' ≤ sfuel → (satisfy sfuel' st).err = true := by
  intro sfuel' hle
  cases h' : (satisfy sfuel' st).err with
  | true => rfl
  | false =>
    rw [satisfy_fuel_mono sfuel' st h' sfuel hle, h'] at h
    cases h

theorem solveLoop_fuel_add : ∀ (fuel sfuel : Nat) (st : St) (lc c : Rat), (solveLoop fuel sfuel st lc c).1.err = false →
    ∀ k j, solveLoop (fuel + k) (sfuel + j) st lc c = solveLoop fuel sfuel st lc c := by
  intro fuel
  induction fuel with
  | zero => intro _ st _ _ h; rw [solveLoop] at h; cases h
  | succ fuel ih =>
    intro sfuel st lc c h k j
    rw [Nat.add_right_comm]
    rw [solveLoop] at h ⊢
    rw [solveLoop]
    by_cases hc : ratAbs (lc - c) > Gen.solveCostTolerance
    · rw [if_pos hc] at h ⊢
      rw [if_pos hc]
      have herr1 : (satisfy sfuel st).err = false := err_false_of_imp (solveLoop_errmono fuel sfuel _ _ _) h
      rw [satisfy_fuel_add sfuel st herr1 j]
      exact ih sfuel _ _ _ h k j
    · rw [if_neg hc, if_neg hc]

theorem solve_fuel_add (fuel sfuel : Nat) (st : St) (h : (solve fuel sfuel st).1.err = false) (k j : Nat) :
    solve (fuel + k) (sfuel + j) st = solve fuel sfuel st := by
  unfold solve at h ⊢
  have herr1 : (satisfy sfuel st).err = false := err_false_of_imp (solveLoop_errmono fuel sfuel _ _ _) h
  rw [satisfy_fuel_add sfuel st herr1 j]
  exact solveLoop_fuel_add fuel sfuel _ _ _ h k j

theorem solve_fuel_mono (fuel sfuel : Nat) (st : St) (h : (solve fuel sfuel st).1.err = false) :
    ∀ fuel', fuel ≤ fuel' → ∀ sfuel', sfuel ≤ sfuel' → solve fuel' sfuel' st = solve fuel sfuel st := by
  intro fuel' hle sfuel' hle'
  obtain ⟨k, rfl⟩ := Nat.exists_eq_add_of_le hle
  obtain ⟨j, rfl⟩ := Nat.exists_eq_add_of_le hle'
  exact solve_fuel_add fuel sfuel st h k j

theorem solve_err_antimono (fuel sfuel : Nat) (st : St) (h : (solve fuel sfuel st).1.err = true) :
    ∀ fuel', fuel' ≤ fuel → ∀ sfuel', sfuel' ≤ sfuel → (solve fuel' sfuel' st).1.err = true := by
  intro fuel' hle sfuel' hle'
  cases h' : (solve fuel' sfuel' st).1.err with
  | true => rfl
  | false =>
    rw [solve_fuel_mono fuel' sfuel' st h' fuel hle sfuel hle', h'] at h
    cases h

/-! ## `err` after `satisfy` comes from `satisfyLoop` reaching fuel `0`, and from nowhere else

The loop of `Solver.satisfy` without fuel: `satCond` is the test of the `while` statement, `satNext` its body followed by the
next `mostViolated()`.  Neither involves the loop fuel.  Under the invariants the body never raises `err` (`satStep_spec`), the
split pass before the loop does not either (`blocksSplit_inv2`), hence `satisfy n` raises `err` exactly when the test of the
`while` statement is still true at the start of each of the first `n` iterations. -/

/-- `k` iterations of the loop body (no test, no fuel) -/
def satIter : Nat → St × Option Nat → St × Option Nat
  | 0, p => p
  | k + 1, p => satIter k (satNext p)

theorem satIter_all_succ (p : St × Option Nat) (n : Nat) :
    (∀ k, k < n + 1 → satCond (satIter k p) = true) ↔
      satCond p = true ∧ ∀ k, k < n → satCond (satIter k (satNext p)) = true :=
  ⟨fun h => ⟨h 0 (Nat.succ_pos n), fun k hk => h (k + 1) (Nat.succ_lt_succ hk)⟩, fun h k hk => by
    cases k with
    | zero => exact h.1
    | succ k => exact h.2 k (Nat.lt_of_succ_lt_succ hk)⟩

theorem satisfyLoop_err_iff : ∀ (n : Nat) (st0 : St), Inv2 st0 → Covered st0 none → st0.err = false →
    ((satisfyLoop n (mostViolated st0).1 (mostViolated st0).2).err = true ↔
      ∀ k, k < n → satCond (satIter k (mostViolated st0)) = true) := by
  intro n
  induction n with
  | zero =>
    intro st0 _ _ _
    rw [satisfyLoop]
    exact ⟨fun _ k hk => absurd hk (Nat.not_lt_zero k), fun _ => rfl⟩
  | succ n ih =>
    intro st0 h hcov herr
    rw [satIter_all_succ]
    rcases satisfyLoop_unroll n st0 h hcov herr with ⟨hc, _, _, e⟩ | ⟨hc, st1, h1, c1, e1, _, hn, e⟩
    · rw [e, herr, hc]
      exact ⟨fun h => (nomatch h), fun h => (nomatch h.1)⟩
    · rw [e, hn, ih st1 h1 c1 e1]
      exact ⟨fun h => ⟨hc, h⟩, fun h => h.2⟩

/-- the state and pending constraint the `while` loop of `satisfy` is entered with -/
def satStart (st : St) : St × Option Nat := mostViolated (blocksSplit st)

theorem satisfy_err_iff (n : Nat) (st : St) (h : Inv2 st) (hcov : Covered st none) (herr : st.err = false) :
    (satisfy n st).err = true ↔ ∀ k, k < n → satCond (satIter k (satStart st)) = true := by
  obtain ⟨e1, h1, c1, _⟩ := blocksSplit_inv2 st h hcov herr
  exact satisfyLoop_err_iff n (blocksSplit st) h1 c1 e1

theorem satisfyLoop_eq_iter : ∀ (n : Nat) (st0 : St), Inv2 st0 → Covered st0 none →
    st0.err = false → ∀ k, k < n → (∀ j, j < k → satCond (satIter j (mostViolated st0)) = true) →
    satCond (satIter k (mostViolated st0)) = false →
    satisfyLoop n (mostViolated st0).1 (mostViolated st0).2 = (satIter k (mostViolated st0)).1 := by
  intro n
  induction n with
  | zero => intro _ _ _ _ k hk; exact absurd hk (Nat.not_lt_zero k)
  | succ n ih =>
    intro st0 h hcov herr k hk hbefore hstop
    rcases satisfyLoop_unroll n st0 h hcov herr with ⟨hc, he, _, e⟩ | ⟨hc, st1, h1, c1, e1, _, hn, e⟩
    · cases k with
      | zero => exact e.trans he.symm
      | succ k => exact absurd ((hbefore 0 (Nat.succ_pos k)).symm.trans hc) (by decide)
    · cases k with
      | zero => exact absurd (hc.symm.trans hstop) (by decide)
      | succ k =>
        rw [satIter, hn] at hstop ⊢
        rw [e]
        refine ih st1 h1 c1 e1 k (Nat.lt_of_succ_lt_succ hk) (fun j hj => ?_) hstop
        have := hbefore (j + 1) (Nat.succ_lt_succ hj)
        rwa [satIter, hn] at this

theorem satisfy_eq_iter (n : Nat) (st : St) (h : Inv2 st) (hcov : Covered st none) (herr : st.err = false) (k : Nat)
    (hk : k < n) (hbefore : ∀ j, j < k → satCond (satIter j (satStart st)) = true)
    (hstop : satCond (satIter k (satStart st)) = false) : satisfy n st = (satIter k (satStart st)).1 := by
  obtain ⟨e1, h1, c1, _⟩ := blocksSplit_inv2 st h hcov herr
  exact satisfyLoop_eq_iter n (blocksSplit st) h1 c1 e1 k hk hbefore hstop

/-! ## `err` after `solve` comes from `solveLoop` or from the `satisfyLoop` of one of its passes -/

/-- the test of the `while` loop of `Solver.solve`, on (state, lastcost, cost) -/
def solveCond (p : St × Rat × Rat) : Bool := decide (ratAbs (p.2.1 - p.2.2) > Gen.solveCostTolerance)

/-- the body of the `while` loop of `Solver.solve` -/
def solveNext (sfuel : Nat) (p : St × Rat × Rat) : St × Rat × Rat :=
  (satisfy sfuel p.1, p.2.2, cost (satisfy sfuel p.1))

def solveIter (sfuel : Nat) : Nat → St × Rat × Rat → St × Rat × Rat
  | 0, p => p
  | k + 1, p => solveIter sfuel k (solveNext sfuel p)

/-- what the `while` loop of `Solver.solve` is entered with -/
def solveStart (sfuel : Nat) (st : St) : St × Rat × Rat := (satisfy sfuel st, maxsize, cost (satisfy sfuel st))

theorem solveLoop_err_cases (sfuel : Nat) : ∀ (n : Nat) (st : St) (lc c : Rat), Inv2 st → Covered st none →
    st.err = false → (solveLoop n sfuel st lc c).1.err = true →
    (∃ st', Inv2 st' ∧ Covered st' none ∧ st'.err = false ∧ (satisfy sfuel st').err = true) ∨
    (∀ k, k < n → solveCond (solveIter sfuel k (st, lc, c)) = true) := by
  intro n
  induction n with
  | zero => intro _ _ _ _ _ _ _; exact Or.inr (fun k hk => absurd hk (Nat.not_lt_zero k))
  | succ n ih =>
    intro st lc c h hcov herr he
    rw [solveLoop] at he
    by_cases hc : ratAbs (lc - c) > Gen.solveCostTolerance
    · rw [if_pos hc] at he
      cases h1 : (satisfy sfuel st).err with
      | true => exact Or.inl ⟨st, h, hcov, herr, h1⟩
      | false =>
        obtain ⟨h2, hcov2, _⟩ := satisfy_inv2 sfuel st h hcov h1
        rcases ih (satisfy sfuel st) c (cost (satisfy sfuel st)) h2 hcov2 h1 he with hl | hr
        · exact Or.inl hl
        · refine Or.inr (fun k hk => ?_)
          cases k with
          | zero => simpa [solveIter, solveCond] using hc
          | succ k => exact hr k (Nat.lt_of_succ_lt_succ hk)
    · rw [if_neg hc] at he
      rw [herr] at he
      cases he

theorem solve_err_only_from_loops (fuel sfuel : Nat) (st : St) (h : Inv2 st) (hcov : Covered st none) (herr : st.err = false)
    (he : (solve fuel sfuel st).1.err = true) :
    (∃ st', Inv2 st' ∧ Covered st' none ∧ st'.err = false ∧
        ∀ k, k < sfuel → satCond (satIter k (satStart st')) = true) ∨
    (∀ k, k < fuel → solveCond (solveIter sfuel k (solveStart sfuel st)) = true) := by
  have key : (∃ st', Inv2 st' ∧ Covered st' none ∧ st'.err = false ∧ (satisfy sfuel st').err = true) ∨
      (∀ k, k < fuel → solveCond (solveIter sfuel k (solveStart sfuel st)) = true) := by
    unfold solve at he
    cases h1 : (satisfy sfuel st).err with
    | true => exact Or.inl ⟨st, h, hcov, herr, h1⟩
    | false =>
      obtain ⟨h2, hcov2, _⟩ := satisfy_inv2 sfuel st h hcov h1
      exact solveLoop_err_cases sfuel fuel (satisfy sfuel st) maxsize (cost (satisfy sfuel st)) h2 hcov2 h1 he
  rcases key with ⟨st', a1, a2, a3, a4⟩ | hr
  · exact Or.inl ⟨st', a1, a2, a3, (satisfy_err_iff sfuel st' a1 a2 a3).1 a4⟩
  · exact Or.inr hr

theorem solveLoop_err_of_cond (sfuel : Nat) : ∀ (n : Nat) (st : St) (lc c : Rat),
    (∀ k, k < n → solveCond (solveIter sfuel k (st, lc, c)) = true) → (solveLoop n sfuel st lc c).1.err = true := by
  intro n
  induction n with
  | zero => intro _ _ _ _; rw [solveLoop]
  | succ n ih =>
    intro st lc c h
    rw [solveLoop]
    have h0 := h 0 (Nat.succ_pos n)
    have hc : ratAbs (lc - c) > Gen.solveCostTolerance := by simpa [solveIter, solveCond] using h0
    rw [if_pos hc]
    exact ih _ _ _ (fun k hk => h (k + 1) (Nat.succ_lt_succ hk))

end Labella.Vpsc
