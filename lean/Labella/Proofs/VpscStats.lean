import Labella.Proofs.VpscFrame
import Labella.Proofs.VpscMerge
import Labella.Proofs.VpscSplit
import Mathlib.Algebra.Order.Field.Rat
import Mathlib.Algebra.BigOperators.Group.List.Basic
import Mathlib.Tactic.Ring
import Mathlib.Tactic.Linarith
/-! # Position statistics of a single block (`StatsB`) and the elementary operations that keep them exact

`StatsInv st` says `StatsB st b` for every block `b` some variable points to.  `updateWeightedPosition` recomputes the
statistics of one block from its `vars` list and so keeps `StatsInv` and restores `StatsB` of a block of which only the scale
is known (`ScaleInv`). -/
namespace Labella.Vpsc

/-- the statistics stored in the block object `x` are those of the variables it lists (read in `st`) -/
def StatsOK (st : St) (x : B) : Prop :=
  x.scale ≠ 0 ∧ x.AB = sumAB st x ∧ x.AD = sumAD st x ∧ x.A2 = sumA2 st x ∧ x.posn = getPosn x

def StatsB (st : St) (b : Nat) : Prop := StatsOK st (getB st b)

theorem statsInv_iff (st : St) : StatsInv st ↔ ∀ v, v < st.vs.size → StatsB st (getV st v).block := Iff.rfl

/-- the data of a variable the statistics read -/
def VSame (v v' : V) : Prop := v'.w = v.w ∧ v'.s = v.s ∧ v'.offset = v.offset ∧ v'.d = v.d

theorem VSame.rfl' (v : V) : VSame v v := ⟨rfl, rfl, rfl, rfl⟩

/-- the fields of a block object the statistics read (everything but `ind`) -/
def BSame (x y : B) : Prop :=
  y.vars = x.vars ∧ y.scale = x.scale ∧ y.AB = x.AB ∧ y.AD = x.AD ∧ y.A2 = x.A2 ∧ y.posn = x.posn

theorem BSame.rfl' (x : B) : BSame x x := ⟨rfl, rfl, rfl, rfl, rfl, rfl⟩

theorem BSame.trans {x y z : B} (h1 : BSame x y) (h2 : BSame y z) : BSame x z :=
  ⟨h2.1.trans h1.1, h2.2.1.trans h1.2.1, h2.2.2.1.trans h1.2.2.1, h2.2.2.2.1.trans h1.2.2.2.1,
    h2.2.2.2.2.1.trans h1.2.2.2.2.1, h2.2.2.2.2.2.trans h1.2.2.2.2.2⟩

theorem BSame.setInd (x : B) (k : Nat) : BSame x { x with ind := k } := ⟨rfl, rfl, rfl, rfl, rfl, rfl⟩

theorem sums_congr {st st' : St} {x y : B} (h1 : y.vars = x.vars) (h2 : y.scale = x.scale)
    (hV : ∀ i ∈ x.vars, VSame (getV st i) (getV st' i)) :
    sumAB st' y = sumAB st x ∧ sumAD st' y = sumAD st x ∧ sumA2 st' y = sumA2 st x := by
  unfold sumAB sumAD sumA2
  rw [h1, h2]
  refine ⟨?_, ?_, ?_⟩ <;>
  · congr 1
    apply List.map_congr_left
    intro i hi
    obtain ⟨a, b, c, d⟩ := hV i hi
    simp only [a, b, c, d]

theorem StatsOK.congr {st st' : St} {x y : B} (hB : BSame x y) (hV : ∀ i ∈ x.vars, VSame (getV st i) (getV st' i))
    (h : StatsOK st x) : StatsOK st' y := by
  obtain ⟨h1, h2, h3, h4, h5, h6⟩ := hB
  obtain ⟨e1, e2, e3⟩ := sums_congr h1 h2 hV
  obtain ⟨g1, g2, g3, g4, g5⟩ := h
  refine ⟨by rw [h2]; exact g1, by rw [h3, e1]; exact g2, by rw [h4, e2]; exact g3, by rw [h5, e3]; exact g4, ?_⟩
  rw [h6, g5]
  unfold getPosn
  rw [h3, h4, h5]

theorem StatsB.congr {st st' : St} {b b' : Nat} (hB : BSame (getB st b) (getB st' b'))
    (hV : ∀ i ∈ (getB st b).vars, VSame (getV st i) (getV st' i)) (h : StatsB st b) : StatsB st' b' :=
  StatsOK.congr hB hV h

theorem setV_statsB (s : St) (b w : Nat) (v' : V) (hw : w ∉ (getB s b).vars) (h : StatsB s b) : StatsB (setV s w v') b := by
  refine StatsB.congr (st := s) (b := b) (BSame.rfl' _) (fun i hi => ?_) h
  rw [getV_setV, if_neg]
  · exact VSame.rfl' _
  · rintro ⟨rfl, _⟩; exact hw hi

/-- `PositionStats.addVariable` for a variable appended to the list keeps the three sums exact -/
theorem addStats_statsOK {st st' : St} {x : B} (w : Nat) (hV : ∀ i ∈ x.vars, VSame (getV st i) (getV st' i)) (h : StatsOK st x) :
    StatsOK st' { addStats x (getV st' w) with vars := x.vars ++ [w], posn := getPosn (addStats x (getV st' w)) } := by
  obtain ⟨e1, e2, e3⟩ := sums_congr (x := x) rfl rfl hV
  obtain ⟨g1, g2, g3, g4, _⟩ := h
  have hsum : ∀ f : V → Rat, ((x.vars ++ [w]).map (fun i => f (getV st' i))).sum =
      (x.vars.map (fun i => f (getV st' i))).sum + f (getV st' w) := fun f => by simp
  exact ⟨g1,
    (congrArg (· + _) (g2.trans e1.symm)).trans (hsum fun v => v.w * (x.scale / v.s) * (v.offset / v.s)).symm,
    (congrArg (· + _) (g3.trans e2.symm)).trans (hsum fun v => v.w * (x.scale / v.s) * v.d).symm,
    (congrArg (· + _) (g4.trans e3.symm)).trans (hsum fun v => v.w * (x.scale / v.s) * (x.scale / v.s)).symm, rfl⟩

theorem addVariable_statsB (s : St) (b w : Nat) (hb : b < s.bs.size) (hw : w ∉ (getB s b).vars) (h : StatsB s b) :
    StatsB (addVariable s b w) b := by
  have hB : getB (addVariable s b w) b =
      { addStats (getB s b) (getV (addVariable s b w) w) with
        vars := (getB s b).vars ++ [w], posn := getPosn (addStats (getB s b) (getV (addVariable s b w) w)) } := by
    simp only [addVariable, getB_setB, getB_setV, setV_bs, getV_setB]
    rw [if_pos ⟨trivial, hb⟩]
    rfl
  unfold StatsB
  rw [hB]
  refine addStats_statsOK w (fun i hi => ?_) h
  rw [getV_addVariable, if_neg (by rintro ⟨rfl, _⟩; exact hw hi)]
  exact VSame.rfl' _

theorem addVariable_statsB_ne (s : St) (b w b' : Nat) (hne : b' ≠ b) (hw : w ∉ (getB s b').vars) (h : StatsB s b') :
    StatsB (addVariable s b w) b' := by
  refine StatsB.congr (st := s) (b := b') ?_ (fun i hi => ?_) h
  · rw [getB_addVariable_ne _ _ _ _ hne]; exact BSame.rfl' _
  · rw [getV_addVariable, if_neg]
    · exact VSame.rfl' _
    · rintro ⟨rfl, _⟩; exact hw hi


/-! ## Transport of `ListInv` and `StatsInv` along steps that keep what they read -/

theorem ListInv.congr {st st' : St} (hvs : st'.vs.size = st.vs.size)
    (hblk : ∀ i, (getV st' i).block = (getV st i).block) (hlist : st'.list = st.list)
    (hind : ∀ x, (getB st' x).ind = (getB st x).ind) (hl : ListInv st) : ListInv st' := by
  refine ⟨?_, ?_, ?_, ?_⟩
  · rw [hlist]; exact hl.nodup
  · intro v hv
    rw [hvs] at hv
    rw [hlist, hblk]; exact hl.covers v hv
  · intro b hb
    rw [hlist] at hb
    obtain ⟨v, hv, e⟩ := hl.inuse b hb
    exact ⟨v, by rw [hvs]; exact hv, (hblk v).trans e⟩
  · intro k hk
    have hk' : k < st.list.size := by rw [hlist] at hk; exact hk
    have : st'.list[k] = st.list[k] := by simp only [hlist]
    rw [this, hind]; exact hl.ind k hk'

/-- steps that leave the variables and the statistics alone (they may change `ind` fields and the block list) -/
structure StatEq (st st' : St) : Prop where
  vs_eq : st'.vs = st.vs
  bsame : ∀ b, BSame (getB st b) (getB st' b)

theorem StatEq.refl (st : St) : StatEq st st := ⟨rfl, fun _ => BSame.rfl' _⟩

theorem StatEq.trans {a b c : St} (h1 : StatEq a b) (h2 : StatEq b c) : StatEq a c :=
  ⟨h2.vs_eq.trans h1.vs_eq, fun x => (h1.bsame x).trans (h2.bsame x)⟩

theorem StatEq.getV {st st' : St} (h : StatEq st st') (i : Nat) : getV st' i = getV st i := getV_congr h.vs_eq i

theorem position_of_statEq {st st' : St} (h : StatEq st st') (z : Nat) : position st' z = position st z := by
  unfold position
  simp only [h.getV]
  obtain ⟨_, h2, _, _, _, h6⟩ := h.bsame (getV st z).block
  rw [h2, h6]

theorem statsB_of_statEq {st st' : St} (h : StatEq st st') {b : Nat} (hs : StatsB st b) : StatsB st' b :=
  StatsB.congr (h.bsame b) (fun i _ => by rw [h.getV]; exact VSame.rfl' _) hs

theorem StatsInv.of_statEq {st st' : St} (h : StatEq st st') (hs : StatsInv st) : StatsInv st' := by
  intro v hv
  rw [h.vs_eq] at hv
  rw [h.getV]
  exact statsB_of_statEq h (hs v hv)

theorem statEq_setList (st : St) (l : Array Nat) : StatEq st { st with list := l } := ⟨rfl, fun _ => BSame.rfl' _⟩

theorem statEq_setB_ind (st : St) (b k : Nat) : StatEq st (setB st b { getB st b with ind := k }) := by
  refine ⟨rfl, fun x => ?_⟩
  rw [getB_setB]
  split
  · next h => rw [h.1]; exact BSame.setInd _ _
  · exact BSame.rfl' _

theorem insertBlock_statEq (st : St) (b : Nat) : StatEq st (insertBlock st b) :=
  (statEq_setB_ind st b _).trans (statEq_setList _ _)

theorem removeSet_eq (st : St) (b : Nat) :
    removeSet st b = (if b ≠ st.list.getD (st.list.size - 1) 0 then
      setB { st with list := st.list.setIfInBounds (getB st b).ind (st.list.getD (st.list.size - 1) 0) }
        (st.list.getD (st.list.size - 1) 0) { getB st (st.list.getD (st.list.size - 1) 0) with ind := (getB st b).ind }
      else st) := by
  unfold removeSet
  simp only [bne_iff_ne]
  rfl

theorem removeSet_statEq (st : St) (b : Nat) : StatEq st (removeSet st b) := by
  rw [removeSet_eq]
  split
  · exact (statEq_setList st _).trans (statEq_setB_ind _ _ _)
  · exact StatEq.refl st

theorem removeBlock_statEq (st : St) (b : Nat) : StatEq st (removeBlock st b) :=
  (removeSet_statEq st b).trans (statEq_setList _ _)

theorem StatsInv.of_quiet {st st' : St} (h : Quiet st st') (hs : StatsInv st) : StatsInv st' :=
  hs.of_statEq ⟨h.vs_eq, fun b => by rw [h.getB]; exact BSame.rfl' _⟩

theorem ListInv.of_quiet {st st' : St} (h : Quiet st st') (hl : ListInv st) : ListInv st' :=
  hl.congr (by rw [h.vs_eq]) (fun i => by rw [h.getV]) h.list_eq (fun x => by rw [h.getB])

/-! ## `Block.updateWeightedPosition` -/

theorem foldl_addStats (st : St) (l : List Nat) : ∀ x : B,
    (l.foldl (fun acc i => addStats acc (getV st i)) x).scale = x.scale ∧
    (l.foldl (fun acc i => addStats acc (getV st i)) x).ind = x.ind ∧
    (l.foldl (fun acc i => addStats acc (getV st i)) x).AB = x.AB +
      (l.map (fun i => (getV st i).w * (x.scale / (getV st i).s) * ((getV st i).offset / (getV st i).s))).sum ∧
    (l.foldl (fun acc i => addStats acc (getV st i)) x).AD = x.AD +
      (l.map (fun i => (getV st i).w * (x.scale / (getV st i).s) * (getV st i).d)).sum ∧
    (l.foldl (fun acc i => addStats acc (getV st i)) x).A2 = x.A2 +
      (l.map (fun i => (getV st i).w * (x.scale / (getV st i).s) * (x.scale / (getV st i).s))).sum := by
  induction l with
  | nil => intro x; simp
  | cons a t ih =>
    intro x
    obtain ⟨h2, h3, h4, h5, h6⟩ := ih (addStats x (getV st a))
    simp only [List.foldl_cons, List.map_cons, List.sum_cons]
    exact ⟨h2, h3, h4.trans (add_assoc _ _ _), h5.trans (add_assoc _ _ _), h6.trans (add_assoc _ _ _)⟩

theorem updateWeightedPosition_getB (st : St) (b x : Nat) :
    getB (updateWeightedPosition st b) x = if x = b ∧ b < st.bs.size then
      { (getB st b).vars.foldl (fun acc i => addStats acc (getV st i)) { getB st b with AB := 0, AD := 0, A2 := 0 } with
        posn := getPosn ((getB st b).vars.foldl (fun acc i => addStats acc (getV st i))
          { getB st b with AB := 0, AD := 0, A2 := 0 }) }
    else getB st x := by
  unfold updateWeightedPosition
  simp only
  rw [getB_setB]

theorem updateWeightedPosition_listInv (st : St) (b : Nat) (hl : ListInv st) : ListInv (updateWeightedPosition st b) := by
  refine ListInv.congr (st := st) (st' := updateWeightedPosition st b) rfl (fun _ => rfl) rfl (fun x => ?_) hl
  rw [updateWeightedPosition_getB]
  split
  · next h => rw [h.1]; exact (foldl_addStats st _ _).2.1
  · rfl

theorem uwp_scale (st : St) (b x : Nat) : (getB (updateWeightedPosition st b) x).scale = (getB st x).scale := by
  rw [updateWeightedPosition_getB]
  split
  · next h => rw [h.1]; exact (foldl_addStats st _ _).1
  · rfl

theorem uwp_bs_size (st : St) (b : Nat) : (updateWeightedPosition st b).bs.size = st.bs.size := by
  simp [updateWeightedPosition]

/-- the sums and the position are recomputed from the `vars` list: nothing of the old statistics is read but `scale` -/
theorem uwp_statsB_self (st : St) (b : Nat) (hb : b < st.bs.size) (hs : (getB st b).scale ≠ 0) :
    StatsB (updateWeightedPosition st b) b := by
  show StatsOK _ (getB _ _)
  rw [updateWeightedPosition_getB, if_pos ⟨rfl, hb⟩]
  have f1 := FrameAux.foldl_addStats_vars st (getB st b).vars { getB st b with AB := 0, AD := 0, A2 := 0 }
  obtain ⟨f2, _, f4, f5, f6⟩ := foldl_addStats st (getB st b).vars { getB st b with AB := 0, AD := 0, A2 := 0 }
  generalize (getB st b).vars.foldl (fun acc i => addStats acc (getV st i)) { getB st b with AB := 0, AD := 0, A2 := 0 } = y
    at f1 f2 f4 f5 f6 ⊢
  obtain ⟨e1, e2, e3⟩ := sums_congr (st := st) (st' := updateWeightedPosition st b) (y := { y with posn := getPosn y })
    f1 f2 (fun i _ => VSame.rfl' _)
  exact ⟨f2 ▸ hs, (f4.trans (zero_add _)).trans e1.symm, (f5.trans (zero_add _)).trans e2.symm,
    (f6.trans (zero_add _)).trans e3.symm, rfl⟩

theorem uwp_statsB_keep (st : St) (b x : Nat) (h : StatsB st x) : StatsB (updateWeightedPosition st b) x := by
  by_cases hx : x = b ∧ b < st.bs.size
  · obtain ⟨rfl, hb⟩ := hx
    exact uwp_statsB_self st x hb h.1
  · refine StatsB.congr (st := st) (b := x) ?_ (fun i _ => VSame.rfl' _) h
    rw [updateWeightedPosition_getB, if_neg hx]
    exact BSame.rfl' _

theorem updateWeightedPosition_statsInv (st : St) (b : Nat) (h : StatsInv st) : StatsInv (updateWeightedPosition st b) :=
  fun v hv => uwp_statsB_keep st b _ (h v hv)

theorem uwp_self (st : St) (b : Nat) (h : StatsB st b) : updateWeightedPosition st b = st := by
  obtain ⟨_, g2, g3, g4, g5⟩ := h
  have f1 := FrameAux.foldl_addStats_vars st (getB st b).vars { getB st b with AB := 0, AD := 0, A2 := 0 }
  obtain ⟨f2, f3, f4, f5, f6⟩ := foldl_addStats st (getB st b).vars { getB st b with AB := 0, AD := 0, A2 := 0 }
  have e : ({ (getB st b).vars.foldl (fun acc i => addStats acc (getV st i)) { getB st b with AB := 0, AD := 0, A2 := 0 } with
        posn := getPosn ((getB st b).vars.foldl (fun acc i => addStats acc (getV st i))
          { getB st b with AB := 0, AD := 0, A2 := 0 }) } : B) = getB st b := by
    have eAB : ((getB st b).vars.foldl (fun acc i => addStats acc (getV st i)) { getB st b with AB := 0, AD := 0, A2 := 0 }).AB
        = (getB st b).AB := by rw [f4, g2]; simp [sumAB]
    have eAD : ((getB st b).vars.foldl (fun acc i => addStats acc (getV st i)) { getB st b with AB := 0, AD := 0, A2 := 0 }).AD
        = (getB st b).AD := by rw [f5, g3]; simp [sumAD]
    have eA2 : ((getB st b).vars.foldl (fun acc i => addStats acc (getV st i)) { getB st b with AB := 0, AD := 0, A2 := 0 }).A2
        = (getB st b).A2 := by rw [f6, g4]; simp [sumA2]
    apply B_eq_of_fields
    · exact f1
    · exact f2
    · exact eAB
    · exact eAD
    · exact eA2
    · show getPosn _ = _
      rw [g5]
      unfold getPosn
      rw [eAB, eAD, eA2]
    · exact f3
  have : updateWeightedPosition st b = setB st b (getB st b) := by
    unfold updateWeightedPosition
    simp only
    rw [e]
  rw [this, setB_self]

theorem foldl_uwp_self (st : St) (l : List Nat) (h : ∀ b ∈ l, StatsB st b) :
    l.foldl (fun st b => updateWeightedPosition st b) st = st := by
  induction l with
  | nil => rfl
  | cons a t ih =>
    rw [List.foldl_cons, uwp_self st a (h a List.mem_cons_self)]
    exact ih (fun b hb => h b (List.mem_cons_of_mem _ hb))

/-- the part of `StatsInv` that `updateWeightedPosition` does not recompute: the scale of every block in use is nonzero -/
def ScaleInv (st : St) : Prop := ∀ v, v < st.vs.size → (getB st (getV st v).block).scale ≠ 0

theorem StatsInv.scaleInv {st : St} (h : StatsInv st) : ScaleInv st := fun v hv => (h v hv).1

theorem foldl_uwp_listInv (l : List Nat) (st : St) (hl : ListInv st) :
    ListInv (l.foldl (fun st b => updateWeightedPosition st b) st) :=
  FrameAux.foldl_inv ListInv _ l st hl fun s b _ hs => updateWeightedPosition_listInv s b hs

theorem foldl_uwp_statsB (l : List Nat) : ∀ (st : St) (x : Nat),
    ((x ∈ l ∧ x < st.bs.size ∧ (getB st x).scale ≠ 0) ∨ StatsB st x) →
    StatsB (l.foldl (fun st b => updateWeightedPosition st b) st) x := by
  induction l with
  | nil =>
    intro st x h
    rcases h with ⟨h, _⟩ | h
    · cases h
    · exact h
  | cons a t ih =>
    intro st x h
    rw [List.foldl_cons]
    apply ih
    rcases h with ⟨hm, hlt, hsc⟩ | h
    · rcases List.mem_cons.1 hm with rfl | hm
      · exact Or.inr (uwp_statsB_self st x hlt hsc)
      · exact Or.inl ⟨hm, by rw [uwp_bs_size]; exact hlt, by rw [uwp_scale]; exact hsc⟩
    · exact Or.inr (uwp_statsB_keep st a x h)

end Labella.Vpsc
