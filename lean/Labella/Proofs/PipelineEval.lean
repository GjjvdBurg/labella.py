import Labella.Model.Pipeline
import Labella.Proofs.SortEval
/-! Kernel-evaluable twin of `Pipeline.drawn` (every merge sort replaced by the equal stable insertion sort, through `compute'`):
a closed instance of `drawn` rewritten by `drawn'_eq` can be evaluated by `decide +kernel`. -/
namespace Labella.Pipeline
open Labella Labella.Layout Labella.Render

def drawn' (dir : Dir) (layerGap : Rat) (fo : FOpts) (items : List PItem) : List Drawn :=
  let L := Layout.compute' fo (labelsOf dir items)
  L.zipIdx.flatMap (fun lk => lk.1.zipIdx.filterMap (fun pi =>
    if pi.1.ref.isStub then none else
      let n := rnode dir items L lk.2 pi.1.ref.id pi.1.pos
      some { layer := lk.2, idx := pi.2, id := pi.1.ref.id, node := n, box := modelBox (ropt dir layerGap items) n }))

theorem drawn'_eq (dir : Dir) (layerGap : Rat) (fo : FOpts) (items : List PItem) :
    drawn' dir layerGap fo items = drawn dir layerGap fo items := by
  unfold drawn' drawn
  rw [compute'_eq]

end Labella.Pipeline
