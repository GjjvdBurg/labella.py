import Labella.Proofs.TickCountLemmas
/-! Lemmas for C14 (time part): `nice` moves each end of a time domain onto the nearest point of the tick grid
(outward), hence by less than one grid gap, and the grid gaps differ by at most a factor two. -/
namespace Labella.Calendar
open Labella

/-! ### what "skipped" means -/

theorem isEmpty_unit {l : List Int} {P : Int → Prop} {t : Int} (h : ∀ x, x ∈ l ↔ (t ≤ x ∧ x < t + 1 ∧ P x)) :
    l.isEmpty = false ↔ P t := by
  rw [List.isEmpty_eq_false_iff_exists_mem]
  constructor
  · rintro ⟨x, hx⟩
    obtain ⟨h1, h2, h3⟩ := (h x).1 hx
    exact (show x = t by omega) ▸ h3
  · exact fun hp => ⟨t, (h t).2 ⟨Int.le_refl t, Int.lt_succ t, hp⟩⟩

theorem skipped_cal (u : TUnit) (k : Int) (t : Int) :
    skippedB (.cal u (k : Rat)) t = false ↔ Qcal u k t :=
  isEmpty_unit (P := Qcal u k) fun x => by
    rw [calRange_mem_int _ _ _ _ (Rat.den_intCast k), Rat.num_intCast]
    exact ⟨fun ⟨a, b, c, d⟩ => ⟨b, c, a, d⟩, fun ⟨b, c, a, d⟩ => ⟨a, b, c, d⟩⟩

theorem skipped_ms (s : Rat) (t : Int) :
    skippedB (.ms s) t = false ↔ t % (if s.floor < 1 then 1 else s.floor) = 0 :=
  isEmpty_unit (P := fun x => x % (if s.floor < 1 then 1 else s.floor) = 0) (msRange_mem' t (t + 1) s)

/-! ### the skip loops, along an enumeration `g` on which they move by one index -/

def GreatestLE (Q : Int → Prop) (t r : Int) : Prop := Q r ∧ r ≤ t ∧ ∀ x, Q x → x ≤ t → x ≤ r

def LeastGE (Q : Int → Prop) (t r : Int) : Prop := Q r ∧ t ≤ r ∧ ∀ x, Q x → t ≤ x → r ≤ x

theorem niceFloor_loop (M : Method) (g : Int → Int) (K : Int → Prop) (hfl : ∀ i, mFloor M (g i - 1) = g (i - 1))
    (hsk : ∀ i, skippedB M (g i) = false ↔ K i) : ∀ (fuel : Nat) (i x : Int), K x → x ≤ i → i < x + fuel →
      ∃ j, niceFloor M fuel (g i) = g j ∧ GreatestLE K i j := by
  intro fuel
  induction fuel with
  | zero => intro i x _ h1 h2; omega
  | succ f ih =>
    intro i x hx h1 h2
    unfold niceFloor
    by_cases hs : skippedB M (g i) = true
    · have hi : ¬ K i := fun h => by rw [(hsk i).2 h] at hs; exact absurd hs (by simp)
      have hxi : x ≠ i := fun e => hi (e ▸ hx)
      obtain ⟨j, hr, hK, hle, hmax⟩ := ih (i - 1) x hx (by omega) (by omega)
      rw [if_pos hs, hfl]
      refine ⟨j, hr, hK, by omega, fun y hy hyi => hmax y hy ?_⟩
      have : y ≠ i := fun e => hi (e ▸ hy)
      omega
    · rw [if_neg hs]
      exact ⟨i, rfl, (hsk i).1 (by simpa using hs), Int.le_refl _, fun _ _ h => h⟩

theorem niceCeil_loop (M : Method) (g : Int → Int) (K : Int → Prop) (hcl : ∀ i, mCeil M (g i + 1) = g (i + 1))
    (hsk : ∀ i, skippedB M (g i) = false ↔ K i) : ∀ (fuel : Nat) (i x : Int), K x → i ≤ x → x < i + fuel →
      ∃ j, niceCeil M fuel (g i) = g j ∧ LeastGE K i j := by
  intro fuel
  induction fuel with
  | zero => intro i x _ h1 h2; omega
  | succ f ih =>
    intro i x hx h1 h2
    unfold niceCeil
    by_cases hs : skippedB M (g i) = true
    · have hi : ¬ K i := fun h => by rw [(hsk i).2 h] at hs; exact absurd hs (by simp)
      have hxi : x ≠ i := fun e => hi (e ▸ hx)
      obtain ⟨j, hr, hK, hle, hmin⟩ := ih (i + 1) x hx (by omega) (by omega)
      rw [if_pos hs, hcl]
      refine ⟨j, hr, hK, by omega, fun y hy hyi => hmin y hy ?_⟩
      have : y ≠ i := fun e => hi (e ▸ hy)
      omega
    · rw [if_neg hs]
      exact ⟨i, rfl, (hsk i).1 (by simpa using hs), Int.le_refl _, fun _ _ h => h⟩

/-! ### `nice` lands on the nearest kept grid points -/

/-- with more fuel than the kept indices `K` are apart, the loops started at `g i` stop at the nearest kept index on
either side -/
theorem nice_loops (M : Method) (g : Int → Int) {K : Int → Prop} {p q : Int} (S : Spaced K p q) (fuel : Nat)
    (hq : q ≤ fuel) (hfl : ∀ i, mFloor M (g i - 1) = g (i - 1)) (hcl : ∀ i, mCeil M (g i + 1) = g (i + 1))
    (hsk : ∀ i, skippedB M (g i) = false ↔ K i) (i : Int) :
    (∃ j, niceFloor M fuel (g i) = g j ∧ GreatestLE K i j) ∧ (∃ j, niceCeil M fuel (g i) = g j ∧ LeastGE K i j) := by
  obtain ⟨x, hx, h1, h2⟩ := S.below i
  obtain ⟨y, hy, h3, h4⟩ := S.above i
  exact ⟨niceFloor_loop M g K hfl hsk fuel i x hx h1 (by omega), niceCeil_loop M g K hcl hsk fuel i y hy h3 (by omega)⟩

theorem niceRaw_of_lt (e0 e1 : Int) (M : Method) (h : 1 < mSkip M) :
    niceRaw e0 e1 M =
      (niceFloor M ((mSkip M).ceil.toNat + 2) (mFloor M e0), niceCeil M ((mSkip M).ceil.toNat + 2) (mCeil M e1)) := by
  unfold niceRaw; rw [if_pos h]

theorem niceRaw_of_not_lt (e0 e1 : Int) (M : Method) (h : ¬ 1 < mSkip M) :
    niceRaw e0 e1 M = (mFloor M e0, mCeil M e1) := by
  unfold niceRaw; rw [if_neg h]

theorem qcal_one (u : TUnit) (x : Int) : Qcal u 1 x ↔ isBoundary u x = true :=
  ⟨fun h => h.1, fun h => ⟨h, Or.inl (Int.le_refl 1)⟩⟩

theorem niceRaw_nearest_cal (u : TUnit) (k : Int) (hk : KnownSkip u k) (e0 e1 : Int) :
    GreatestLE (Qcal u k) e0 (niceRaw e0 e1 (.cal u (k : Rat))).1 ∧
    LeastGE (Qcal u k) e1 (niceRaw e0 e1 (.cal u (k : Rat))).2 := by
  by_cases h : (1 : Rat) < (k : Rat)
  · rw [niceRaw_of_lt _ _ _ (show 1 < mSkip (.cal u (k : Rat)) from h)]
    simp only [mSkip, mFloor, mCeil]
    rw [Rat.ceil_intCast]
    obtain ⟨g, idx, G, -, S⟩ := spaced_kept u k hk
    have L := nice_loops (.cal u (k : Rat)) g S (k.toNat + 2) (by omega) (fun i => G.floor_pred i)
      (fun i => G.ceil_succ i) (fun i => skipped_cal u k (g i))
    constructor
    · obtain ⟨j, hr, hK, hle, hmax⟩ := (L (idx e0)).1
      rw [G.floor_eq, hr]
      refine ⟨hK, Int.le_trans (G.le_of_le hle) (G.floor_le e0), fun x hx hxe => ?_⟩
      obtain ⟨i', rfl⟩ := (G.bdry x).1 hx.1
      exact G.le_of_le (hmax i' hx (G.le_idx hxe))
    · obtain ⟨j, hr, hK, hle, hmin⟩ := (L (idx (e1 - 1) + 1)).2
      rw [G.ceil_eq, hr]
      refine ⟨hK, Int.le_trans (by have := G.floor_lt (e1 - 1); omega) (G.le_of_le hle), fun x hx hxe => ?_⟩
      obtain ⟨i', rfl⟩ := (G.bdry x).1 hx.1
      exact G.le_of_le (hmin i' hx (G.idx_lt (show e1 - 1 < g i' by omega)))
  · rw [niceRaw_of_not_lt _ _ _ (show ¬ 1 < mSkip (.cal u (k : Rat)) from h)]
    have hk1 : k = 1 := by
      have : ¬ ((1 : Int) < k) := fun hc => h (by exact_mod_cast hc)
      omega
    subst hk1
    have F := floorU_spec u e0
    have C := ceilU_spec u e1
    exact ⟨⟨(qcal_one u _).2 F.1, F.2.1, fun x hx hxe => F.2.2 x ((qcal_one u x).1 hx) hxe⟩,
      ⟨(qcal_one u _).2 C.1, C.2.1, fun x hx hxe => C.2.2 x ((qcal_one u x).1 hx) hxe⟩⟩

theorem niceRaw_nearest_ms (s : Rat) (st : Int) (hst : (if (effSkip s).floor < 1 then 1 else (effSkip s).floor) = st)
    (e0 e1 : Int) :
    GreatestLE (fun x => x % st = 0) e0 (niceRaw e0 e1 (.ms s)).1 ∧
    LeastGE (fun x => x % st = 0) e1 (niceRaw e0 e1 (.ms s)).2 := by
  by_cases h : (1 : Rat) < s
  · rw [niceRaw_of_lt _ _ _ (show 1 < mSkip (.ms s) from h)]
    simp only [mSkip, mFloor, mCeil]
    rw [effSkip_of_ge h.le] at hst
    have hfl : 1 ≤ s.floor := Rat.le_floor_iff.2 (by exact_mod_cast h.le)
    have hst' : s.floor = st := by rw [if_neg (by omega)] at hst; exact hst
    have hfc : s.floor ≤ s.ceil := by
      exact_mod_cast (show ((s.floor : Int) : Rat) ≤ ((s.ceil : Int) : Rat) from
        (Rat.floor_le s).trans Rat.le_ceil)
    have L := nice_loops (.ms s) (fun i => i) (spaced_residue st 0 (by omega) (by omega)) (s.ceil.toNat + 2) (by omega)
      (fun i => rfl) (fun i => rfl) (fun t => by rw [skipped_ms, if_neg (by omega), hst'])
    obtain ⟨j, hr, hj⟩ := (L e0).1
    obtain ⟨j', hr', hj'⟩ := (L e1).2
    rw [hr, hr']
    exact ⟨hj, hj'⟩
  · rw [niceRaw_of_not_lt _ _ _ (show ¬ 1 < mSkip (.ms s) from h)]
    rw [ms_step_le s (not_lt.1 h)] at hst
    subst hst
    exact ⟨⟨Int.emod_one _, Int.le_refl _, fun x _ h => h⟩, ⟨Int.emod_one _, Int.le_refl _, fun x _ h => h⟩⟩

namespace TickGrid

theorem nice {d0 d1 : Int} {m : Rat} {Q : Int → Prop} {a b : Int} (R : TickGrid d0 d1 m Q a b) :
    GreatestLE Q (min d0 d1) (if d1 < d0 then (nice d0 d1 m).2 else (nice d0 d1 m).1) ∧
    LeastGE Q (max d0 d1) (if d1 < d0 then (nice d0 d1 m).1 else (nice d0 d1 m).2) := by
  rw [nice_eq]
  rcases R.kind with ⟨u, k, hM, hk, rfl⟩ | ⟨s, st, hM, hst, rfl⟩
  · have := niceRaw_nearest_cal u k hk (min d0 d1) (max d0 d1)
    rw [hM]; split <;> exact this
  · have := niceRaw_nearest_ms s st hst (min d0 d1) (max d0 d1)
    rw [hM]; split <;> exact this

end TickGrid

end Labella.Calendar
