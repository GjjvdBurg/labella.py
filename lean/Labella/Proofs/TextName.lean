import Labella.Model.Text
import Std.Data.String.ToNat
/-! Helper lemmas for `Props/C20`: bijective base-26 numeration (`int2name`) and hex colours. -/
namespace Labella.Text

theorem snoc_induction {α : Type} {motive : List α → Prop} (nil : motive [])
    (append_singleton : ∀ (l : List α) (c : α), motive l → motive (l ++ [c])) :
    ∀ l, motive l := by
  have key : ∀ l : List α, motive l.reverse := by
    intro l
    induction l with
    | nil => exact nil
    | cons c l ih => rw [List.reverse_cons]; exact append_singleton _ _ ih
  intro l
  simpa using key l.reverse

/-- one step of the read-back fold.  Here and below `26` is `Gen.nameBase`, `65` is `Gen.nameFirstChar` (`'A'`) and `91`
their sum: the numerals are written out so that `omega` can divide by them; `nameValue_eq`, `isUpperAZ_iff` and
`nameLoop_succ` are where the model's constants are replaced by their values -/
def nameStep (acc c : Nat) : Nat := acc * 26 + (c - 65 + 1)

def nameFold (v : Nat) (l : List Nat) : Nat := l.foldl nameStep v

theorem nameValue_eq (l : List Nat) : nameValue l = nameFold 0 l := by
  cases l <;> rfl

@[simp] theorem nameFold_nil (v : Nat) : nameFold v [] = v := rfl
@[simp] theorem nameFold_cons (v c : Nat) (l : List Nat) :
    nameFold v (c :: l) = nameFold (v * 26 + (c - 65 + 1)) l := rfl
theorem nameFold_append (v : Nat) (l₁ l₂ : List Nat) :
    nameFold v (l₁ ++ l₂) = nameFold (nameFold v l₁) l₂ := by
  simp [nameFold, List.foldl_append]

theorem isUpperAZ_iff (c : Nat) : isUpperAZ c = true ↔ 65 ≤ c ∧ c < 91 := by
  simp only [isUpperAZ, Bool.and_eq_true, decide_eq_true_eq]
  simp only [Gen.nameFirstChar, Gen.nameBase]

theorem nameLoop_zero (fuel : Nat) (acc : List Nat) : nameLoop fuel 0 acc = acc := by
  cases fuel <;> simp [nameLoop]

theorem nameLoop_succ (fuel d : Nat) (acc : List Nat) :
    nameLoop (fuel + 1) (d + 1) acc = nameLoop fuel (d / 26) ((65 + d % 26) :: acc) := by
  have h : (d + 1 - d % 26) / 26 = d / 26 := by omega
  simp [nameLoop, Gen.nameBase, Gen.nameFirstChar, h]

theorem nameLoop_spec (fuel : Nat) : ∀ (d : Nat) (acc : List Nat), d ≤ fuel →
    ∃ l, (∀ c ∈ l, isUpperAZ c = true) ∧ nameFold 0 l = d ∧ nameLoop fuel d acc = l ++ acc := by
  induction fuel with
  | zero =>
    intro d acc h
    obtain rfl : d = 0 := by omega
    exact ⟨[], by simp, rfl, nameLoop_zero 0 acc⟩
  | succ fuel ih =>
    intro d acc h
    cases d with
    | zero => exact ⟨[], by simp, rfl, nameLoop_zero _ acc⟩
    | succ d =>
      obtain ⟨l, hl, hv, he⟩ := ih (d / 26) ((65 + d % 26) :: acc) (by omega)
      refine ⟨l ++ [65 + d % 26], fun c hc => ?_, ?_, ?_⟩
      · rcases List.mem_append.1 hc with hc | hc
        · exact hl c hc
        · rw [List.mem_singleton.1 hc, isUpperAZ_iff]; omega
      · rw [nameFold_append, hv, nameFold_cons, nameFold_nil]; omega
      · rw [nameLoop_succ, he, List.append_assoc, List.singleton_append]

theorem int2name_spec (i : Nat) : (∀ c ∈ int2name i, isUpperAZ c = true) ∧ nameFold 0 (int2name i) = i + 1 := by
  obtain ⟨l, hl, hv, he⟩ := nameLoop_spec (i + 1) (i + 1) [] (Nat.le_refl _)
  rw [List.append_nil] at he
  rw [int2name, he]
  exact ⟨hl, hv⟩

theorem int2name_upper (i : Nat) : ∀ c ∈ int2name i, isUpperAZ c = true := (int2name_spec i).1

theorem nameValue_int2name (i : Nat) : nameValue (int2name i) = i + 1 := by
  rw [nameValue_eq, (int2name_spec i).2]

theorem int2name_ne_nil (i : Nat) : int2name i ≠ [] := by
  intro h
  have := nameValue_int2name i
  rw [h] at this
  cases this

theorem nameLoop_nameStep (fuel v c : Nat) (acc : List Nat) (h1 : 65 ≤ c) (h2 : c < 91) :
    nameLoop (fuel + 1) (v * 26 + (c - 65 + 1)) acc = nameLoop fuel v (c :: acc) := by
  rw [show v * 26 + (c - 65 + 1) = (v * 26 + (c - 65)) + 1 by omega, nameLoop_succ,
    show (v * 26 + (c - 65)) / 26 = v by omega, show 65 + (v * 26 + (c - 65)) % 26 = c by omega]

theorem nameLoop_nameFold (l : List Nat) : (∀ c ∈ l, isUpperAZ c = true) →
    ∀ (fuel : Nat) (acc : List Nat), nameFold 0 l ≤ fuel →
      nameLoop fuel (nameFold 0 l) acc = l ++ acc := by
  induction l using snoc_induction with
  | nil => intro _ fuel acc _; simp [nameLoop_zero]
  | append_singleton l c ih =>
    intro h fuel acc hf
    have hc := (isUpperAZ_iff c).1 (h c (by simp))
    rw [nameFold_append, nameFold_cons, nameFold_nil] at hf ⊢
    cases fuel with
    | zero => omega
    | succ fuel =>
      rw [nameLoop_nameStep _ _ _ _ hc.1 hc.2, ih (fun x hx => h x (by simp [hx])) fuel _ (by omega),
        List.append_assoc, List.singleton_append]

theorem nameFold_pos (l : List Nat) (hne : l ≠ []) : ∀ v, 0 < nameFold v l := by
  induction l using snoc_induction with
  | nil => exact absurd rfl hne
  | append_singleton l c _ =>
    intro v
    rw [nameFold_append, nameFold_cons, nameFold_nil]; omega

/-- smallest value of a name of length `n` : 1 + 26 + … + 26^(n-1) -/
def nameLow : Nat → Nat
  | 0 => 0
  | n + 1 => 26 * nameLow n + 1

theorem nameLow_mono {m n : Nat} (h : m ≤ n) : nameLow m ≤ nameLow n := by
  induction h with
  | refl => exact Nat.le_refl _
  | step _ ih => simp only [nameLow]; omega

theorem nameFold_bounds (l : List Nat) : (∀ c ∈ l, isUpperAZ c = true) →
    nameLow l.length ≤ nameFold 0 l ∧ nameFold 0 l < nameLow (l.length + 1) := by
  induction l using snoc_induction with
  | nil => intro _; simp [nameLow]
  | append_singleton l c ih =>
    intro h
    have hc : 65 ≤ c ∧ c < 91 := (isUpperAZ_iff c).1 (h c (by simp))
    have hl : ∀ c ∈ l, isUpperAZ c = true := fun x hx => h x (by simp [hx])
    have := ih hl
    rw [nameFold_append, nameFold_cons, nameFold_nil, List.length_append, List.length_singleton]
    simp only [nameLow] at this ⊢
    omega

theorem lt_of_nameFold_lt (a : List Nat) : ∀ (b : List Nat) (p q : Nat), a.length = b.length →
    (∀ c ∈ a, isUpperAZ c = true) → (∀ c ∈ b, isUpperAZ c = true) →
    nameFold p a < nameFold q b → p < q ∨ (p = q ∧ a < b) := by
  induction a with
  | nil =>
    intro b p q hlen _ _ h
    obtain rfl : b = [] := List.length_eq_zero_iff.1 hlen.symm
    exact Or.inl h
  | cons x a ih =>
    intro b p q hlen ha hb h
    cases b with
    | nil => simp at hlen
    | cons y b =>
      have hx := (isUpperAZ_iff x).1 (ha x (by simp))
      have hy := (isUpperAZ_iff y).1 (hb y (by simp))
      rw [nameFold_cons, nameFold_cons] at h
      rcases ih b _ _ (by simpa using hlen) (fun c hc => ha c (by simp [hc])) (fun c hc => hb c (by simp [hc])) h
        with h | ⟨h, hab⟩
      · have : p < q ∨ (p = q ∧ x < y) := by omega
        exact this.imp_right fun ⟨hpq, hxy⟩ => ⟨hpq, List.cons_lt_cons_iff.2 (Or.inl hxy)⟩
      · obtain ⟨hpq, rfl⟩ : p = q ∧ x = y := by omega
        exact Or.inr ⟨hpq, List.cons_lt_cons_iff.2 (Or.inr ⟨rfl, hab⟩)⟩

theorem shortlexLt_of_nameValue_lt (a b : List Nat) (ha : ∀ c ∈ a, isUpperAZ c = true)
    (hb : ∀ c ∈ b, isUpperAZ c = true) (h : nameValue a < nameValue b) :
    shortlexLt a b = true := by
  rw [nameValue_eq, nameValue_eq] at h
  have hA := nameFold_bounds a ha
  have hB := nameFold_bounds b hb
  have hle : a.length ≤ b.length := by
    apply Nat.le_of_not_lt
    intro hlt
    have := nameLow_mono (show b.length + 1 ≤ a.length from hlt)
    omega
  simp only [shortlexLt, Bool.or_eq_true, Bool.and_eq_true, decide_eq_true_eq, beq_iff_eq]
  rcases Nat.lt_or_eq_of_le hle with hlt | heq
  · exact Or.inl hlt
  · exact Or.inr ⟨heq, ((lt_of_nameFold_lt a b 0 0 heq ha hb h).resolve_left (Nat.lt_irrefl 0)).2⟩

/-- what is used of one hex digit character, as one decidable statement so that the table below can be evaluated;
read through `hexVal_lt` … `ne_hash_of_hexVal_isSome` -/
def HexOK (c : Char) : Prop :=
  (hexVal c).isSome = true →
    ((hexVal c).getD 0 < 16 ∧ hexVal c = some ((hexVal c).getD 0) ∧ hexVal (upperHex c) = hexVal c ∧
      (('0' ≤ upperHex c ∧ upperHex c ≤ '9') ∨ ('A' ≤ upperHex c ∧ upperHex c ≤ 'F')) ∧ c ≠ '#')

instance (c : Char) : Decidable (HexOK c) := by unfold HexOK; infer_instance

theorem hexOK_small : ∀ n, n < 128 → HexOK (Char.ofNat n) := by decide +kernel

theorem toNat_lt_of_hexVal_isSome (c : Char) (h : (hexVal c).isSome = true) : c.toNat < 128 := by
  unfold hexVal at h
  simp only [Char.le_def, UInt32.le_iff_toNat_le] at h
  simp only [show ∀ c : Char, c.val.toNat = c.toNat from fun _ => rfl] at h
  simp only [show '0'.toNat = 48 from rfl, show '9'.toNat = 57 from rfl, show 'a'.toNat = 97 from rfl,
    show 'f'.toNat = 102 from rfl, show 'A'.toNat = 65 from rfl, show 'F'.toNat = 70 from rfl] at h
  split at h
  · omega
  · split at h
    · omega
    · split at h
      · omega
      · simp at h

/-- a character with a hex value is ASCII (the three ranges of `hexVal` end at `'f'`), and the 128 ASCII rows are a
table -/
theorem hexOK (c : Char) : HexOK c := by
  intro h
  have := hexOK_small c.toNat (toNat_lt_of_hexVal_isSome c h)
  rw [Char.ofNat_toNat] at this
  exact this h

section
variable {c : Char} (h : (hexVal c).isSome = true)
include h

theorem hexVal_lt : (hexVal c).getD 0 < 16 := (hexOK c h).1

theorem hexVal_eq_some : hexVal c = some ((hexVal c).getD 0) := (hexOK c h).2.1

theorem hexVal_upperHex : hexVal (upperHex c) = hexVal c := (hexOK c h).2.2.1

theorem upperHex_digit : ('0' ≤ upperHex c ∧ upperHex c ≤ '9') ∨ ('A' ≤ upperHex c ∧ upperHex c ≤ 'F') :=
  (hexOK c h).2.2.2.1

theorem ne_hash_of_hexVal_isSome : c ≠ '#' := (hexOK c h).2.2.2.2

end

theorem stripHash_hash (l : List Char) : stripHash ('#' :: l) = l := rfl

theorem stripHash_cons_of_ne (c : Char) (l : List Char) (h : c ≠ '#') :
    stripHash (c :: l) = c :: l := by
  unfold stripHash
  split
  · next rest heq => exact absurd (List.cons.inj heq).1 h
  · rfl

theorem stripHash_opt (hash : Bool) (c : Char) (l : List Char) (h : (hexVal c).isSome = true) :
    stripHash ((if hash then ['#'] else []) ++ c :: l) = c :: l := by
  cases hash
  · exact stripHash_cons_of_ne c l (ne_hash_of_hexVal_isSome h)
  · rfl

theorem hexPair_eq (a b : Char) (ha : (hexVal a).isSome = true) (hb : (hexVal b).isSome = true) :
    hexPair a b = some (16 * (hexVal a).getD 0 + (hexVal b).getD 0) := by
  unfold hexPair
  rw [hexVal_eq_some ha, hexVal_eq_some hb]
  rfl

theorem hexPair_upper (a b : Char) (ha : (hexVal a).isSome = true) (hb : (hexVal b).isSome = true) :
    hexPair (upperHex a) (upperHex b) = hexPair a b := by
  unfold hexPair
  rw [hexVal_upperHex ha, hexVal_upperHex hb]

theorem isSome_upperHex (a : Char) (ha : (hexVal a).isSome = true) :
    (hexVal (upperHex a)).isSome = true := by
  rw [hexVal_upperHex ha]; exact ha

theorem hex2rgb_opt (hash : Bool) (c : Char) (l : List Char) (h : (hexVal c).isSome = true) :
    hex2rgb ((if hash then ['#'] else []) ++ c :: l) = hex2rgb (c :: l) := by
  unfold hex2rgb
  rw [stripHash_opt hash c l h, stripHash_cons_of_ne c l (ne_hash_of_hexVal_isSome h)]

theorem hex2rgb_six_eq (a b c d e f : Char) (ha : (hexVal a).isSome = true) :
    hex2rgb [a, b, c, d, e, f]
      = (do some (← hexPair a b, ← hexPair c d, ← hexPair e f)) := by
  unfold hex2rgb
  rw [stripHash_cons_of_ne a _ (ne_hash_of_hexVal_isSome ha)]

theorem hex2rgb_three_eq (a b c : Char) (ha : (hexVal a).isSome = true) :
    hex2rgb [a, b, c]
      = (do some (← hexPair a a, ← hexPair b b, ← hexPair c c)) := by
  unfold hex2rgb
  rw [stripHash_cons_of_ne a _ (ne_hash_of_hexVal_isSome ha)]

theorem hex2rgb_upper (a b c d e f : Char) (ha : (hexVal a).isSome = true)
    (hb : (hexVal b).isSome = true) (hc : (hexVal c).isSome = true) (hd : (hexVal d).isSome = true)
    (he : (hexVal e).isSome = true) (hf : (hexVal f).isSome = true) :
    hex2rgb ([a, b, c, d, e, f].map upperHex) = hex2rgb [a, b, c, d, e, f] := by
  simp only [List.map]
  rw [hex2rgb_six_eq _ _ _ _ _ _ (isSome_upperHex a ha), hex2rgb_six_eq _ _ _ _ _ _ ha,
    hexPair_upper a b ha hb, hexPair_upper c d hc hd, hexPair_upper e f he hf]

theorem hex2html_three (hash : Bool) (a b c : Char) (ha : (hexVal a).isSome = true) :
    hex2html ((if hash then ['#'] else []) ++ [a, b, c]) = [a, a, b, b, c, c].map upperHex := by
  unfold hex2html
  rw [stripHash_opt hash a _ ha]

theorem hex2html_six (hash : Bool) (a b c d e f : Char) (ha : (hexVal a).isSome = true) :
    hex2html ((if hash then ['#'] else []) ++ [a, b, c, d, e, f])
      = [a, b, c, d, e, f].map upperHex := by
  unfold hex2html
  rw [stripHash_opt hash a _ ha]

theorem upperHex_range (l : List Char) (h : ∀ c ∈ l, (hexVal c).isSome = true) :
    ∀ x ∈ l.map upperHex, (('0' ≤ x ∧ x ≤ '9') ∨ ('A' ≤ x ∧ x ≤ 'F')) := by
  intro x hx
  obtain ⟨c, hc, rfl⟩ := List.mem_map.1 hx
  exact upperHex_digit (h c hc)

theorem exists_cons_of_length {α : Type} {l : List α} {n : Nat} (h : l.length = n + 1) :
    ∃ a t, l = a :: t ∧ t.length = n := by
  cases l with
  | nil => cases h
  | cons a t => exact ⟨a, t, rfl, Nat.succ.inj h⟩

theorem length_three_or_six (l : List Char) (h : l.length = 3 ∨ l.length = 6) :
    (∃ a b c, l = [a, b, c]) ∨ (∃ a b c d e f, l = [a, b, c, d, e, f]) := by
  rcases h with h | h
  · obtain ⟨a, l, rfl, h1⟩ := exists_cons_of_length h
    obtain ⟨b, l, rfl, h2⟩ := exists_cons_of_length h1
    obtain ⟨c, l, rfl, h3⟩ := exists_cons_of_length h2
    obtain rfl := List.length_eq_zero_iff.1 h3
    exact Or.inl ⟨a, b, c, rfl⟩
  · obtain ⟨a, l, rfl, h1⟩ := exists_cons_of_length h
    obtain ⟨b, l, rfl, h2⟩ := exists_cons_of_length h1
    obtain ⟨c, l, rfl, h3⟩ := exists_cons_of_length h2
    obtain ⟨d, l, rfl, h4⟩ := exists_cons_of_length h3
    obtain ⟨e, l, rfl, h5⟩ := exists_cons_of_length h4
    obtain ⟨f, l, rfl, h6⟩ := exists_cons_of_length h5
    obtain rfl := List.length_eq_zero_iff.1 h6
    exact Or.inr ⟨a, b, c, d, e, f, rfl⟩

theorem natDigits_toNat (n : Nat) : (String.ofList (natDigits n)).toNat? = some n := by
  unfold natDigits
  rw [String.ofList_toList]
  exact Nat.toNat?_repr n

end Labella.Text
