import Labella.Model.LayoutSpec
import Labella.Proofs.LayoutSep
import Mathlib.Data.List.Perm.Basic
import Mathlib.Tactic.Ring
import Mathlib.Tactic.Linarith
/-! The distributor (helpers for C04/C06).  A stable sort by a key is determined by the multiset of its input when equal keys mean equal
elements.  `distribute` is taken apart into its branches; for `simpleLayers` and for `withStubs ∘ overlapLayers`: where the labels go and which
stubs a layer holds.  In any list of layers with complete stub chains (`StubChains`) no layer with items follows an empty one, every item has
its stub one layer below, and a layer holds one item per label.  The width bound is that of the
loops of `algorithm_overlap`. -/
namespace Labella.Layout
open Labella

/-! ### the stable sort of an indexed list by a key, indices dropped -/

def keySort {α β : Type} [LinearOrder β] (key : α → β) (l : List α) : List α :=
  (l.zipIdx.mergeSort (fun a b => decide (key a.1 ≤ key b.1))).map (·.1)

theorem keySort_perm {α β : Type} [LinearOrder β] (key : α → β) (l : List α) : (keySort key l).Perm l := by
  have h := (List.mergeSort_perm l.zipIdx (fun a b => decide (key a.1 ≤ key b.1))).map (·.1)
  rw [List.zipIdx_map_fst] at h
  exact h

theorem keySort_sorted {α β : Type} [LinearOrder β] (key : α → β) (l : List α) :
    (keySort key l).Pairwise (fun a b => key a ≤ key b) :=
  List.pairwise_map.2 (pairwise_mergeSort_key (fun a : α × Nat => key a.1) l.zipIdx)

theorem keySort_canonical {α β : Type} [LinearOrder β] (key : α → β) (l1 l2 : List α) (hp : l1.Perm l2)
    (hint : ∀ a ∈ l1, ∀ b ∈ l1, key a = key b → a = b) : keySort key l1 = keySort key l2 := by
  have hp1 := keySort_perm key l1
  refine List.Perm.eq_of_pairwise (le := fun a b => key a ≤ key b) ?_ (keySort_sorted key l1)
    (keySort_sorted key l2) (hp1.trans (hp.trans (keySort_perm key l2).symm))
  intro a b ha hb hab hba
  exact hint a (hp1.subset ha) b (hp.symm.subset ((keySort_perm key l2).subset hb)) (le_antisymm hab hba)

theorem sortItems_map_fst_perm (l : List LItem) : ((sortItems l.zipIdx).map (·.1)).Perm l :=
  keySort_perm LItem.target l

theorem sortItems_canonical (l1 l2 : List LItem) (hp : l1.Perm l2)
    (hint : ∀ a ∈ l1, ∀ b ∈ l1, a.target = b.target → a = b) :
    (sortItems l1.zipIdx).map (·.1) = (sortItems l2.zipIdx).map (·.1) :=
  keySort_canonical LItem.target l1 l2 hp hint

def sortedLabels (l : List Label) : List Label := keySort Label.ideal l

theorem sortIds_getD (l : List Label) (d : Label) :
    (sortIds l).map (fun i => l.getD i d) = sortedLabels l := by
  unfold sortIds sortedLabels keySort
  rw [List.map_map]
  apply List.map_congr_left
  intro p hp
  have hp' : p ∈ l.zipIdx := (List.mergeSort_perm _ _).subset hp
  have := List.mem_zipIdx_iff_getElem?.1 hp'
  simp [List.getD, this]

theorem sortedLabels_canonical (l1 l2 : List Label) (hp : l1.Perm l2)
    (hint : ∀ a ∈ l1, ∀ b ∈ l1, a.ideal = b.ideal → a = b) :
    sortedLabels l1 = sortedLabels l2 :=
  keySort_canonical Label.ideal l1 l2 hp hint

theorem sortIds_perm (l : List Label) : (sortIds l).Perm (List.range l.length) := by
  have h := (List.mergeSort_perm l.zipIdx (fun a b => decide (a.1.ideal ≤ b.1.ideal))).map (·.2)
  rw [List.zipIdx_map_snd, ← List.range_eq_range'] at h
  exact h

/-! ### `distribute`, branch by branch -/

theorem distribute_nil (o : DOpts) : distribute o [] = [] := by
  simp [distribute]

theorem distribute_none (o : DOpts) (labels : List Label) (hne : labels ≠ []) (h : o.algorithm = .none) :
    distribute o labels = [(List.range labels.length).map Ref.label] := by
  unfold distribute
  rw [h]
  simp [hne]

theorem distribute_of_ne_none (o : DOpts) (labels : List Label) (hne : labels ≠ []) (h : o.algorithm ≠ .none) :
    distribute o labels =
      if estimateLayers o ((sortIds labels).map (widthOf labels)) ≤ 1 then [(sortIds labels).map Ref.label]
      else if o.algorithm = .simple then
        simpleLayers (sortIds labels) (estimateLayers o ((sortIds labels).map (widthOf labels))).toNat
      else withStubs (overlapLayers labels o (maxWidthPerLayer o) ((sortIds labels).length + 1) (sortIds labels)) := by
  unfold distribute
  rw [if_neg (by simpa using hne)]
  cases ha : o.algorithm with
  | none => exact absurd ha h
  | simple => rfl
  | overlap => rfl

theorem distribute_single (o : DOpts) (labels : List Label) (hne : labels ≠ []) (h : o.algorithm ≠ .none)
    (hnl : estimateLayers o ((sortIds labels).map (widthOf labels)) ≤ 1) :
    distribute o labels = [(sortIds labels).map Ref.label] := by
  rw [distribute_of_ne_none o labels hne h, if_pos hnl]

theorem distribute_simple (o : DOpts) (labels : List Label) (hne : labels ≠ []) (h : o.algorithm = .simple)
    (hnl : ¬ estimateLayers o ((sortIds labels).map (widthOf labels)) ≤ 1) :
    distribute o labels = simpleLayers (sortIds labels)
      (estimateLayers o ((sortIds labels).map (widthOf labels))).toNat := by
  rw [distribute_of_ne_none o labels hne (by rw [h]; decide), if_neg hnl, if_pos h]

theorem distribute_overlap (o : DOpts) (labels : List Label) (hne : labels ≠ []) (h : o.algorithm = .overlap)
    (hnl : ¬ estimateLayers o ((sortIds labels).map (widthOf labels)) ≤ 1) :
    distribute o labels = withStubs (overlapLayers labels o (maxWidthPerLayer o)
      ((sortIds labels).length + 1) (sortIds labels)) := by
  rw [distribute_of_ne_none o labels hne (by rw [h]; decide), if_neg hnl, if_neg (by rw [h]; decide)]

/-- the four shapes of `distribute`.  The cases are not parallel: the second covers both algorithm `none` (`ids` in input
order) and an estimate of at most one layer (`ids = sortIds labels`), and says only that `ids` is a permutation; the third keeps
of `nl = estimateLayers …` only `2 ≤ nl`; the fourth keeps the estimate's bound as stated -/
theorem distribute_cases (o : DOpts) (labels : List Label) :
    (labels = [] ∧ distribute o labels = []) ∨
    (labels ≠ [] ∧ ∃ ids : List Nat, ids.Perm (List.range labels.length) ∧
        distribute o labels = [ids.map Ref.label]) ∨
    (labels ≠ [] ∧ o.algorithm = .simple ∧ ∃ nl : Nat, 2 ≤ nl ∧
        distribute o labels = simpleLayers (sortIds labels) nl) ∨
    (labels ≠ [] ∧ o.algorithm = .overlap ∧
        ¬ estimateLayers o ((sortIds labels).map (widthOf labels)) ≤ 1 ∧
        distribute o labels = withStubs (overlapLayers labels o (maxWidthPerLayer o)
          ((sortIds labels).length + 1) (sortIds labels))) := by
  by_cases hne : labels = []
  · subst hne; exact Or.inl ⟨rfl, distribute_nil o⟩
  by_cases hnone : o.algorithm = .none
  · exact Or.inr (Or.inl ⟨hne, _, List.Perm.refl _, distribute_none o labels hne hnone⟩)
  by_cases hnl : estimateLayers o ((sortIds labels).map (widthOf labels)) ≤ 1
  · exact Or.inr (Or.inl ⟨hne, _, sortIds_perm labels, distribute_single o labels hne hnone hnl⟩)
  by_cases hs : o.algorithm = .simple
  · exact Or.inr (Or.inr (Or.inl ⟨hne, hs, _, by omega, distribute_simple o labels hne hs hnl⟩))
  · have ho : o.algorithm = .overlap := by
      cases h : o.algorithm with
      | none => exact absurd h hnone
      | simple => exact absurd h hs
      | overlap => rfl
    exact Or.inr (Or.inr (Or.inr ⟨hne, ho, hnl, distribute_overlap o labels hne ho hnl⟩))

/-! ### the labels (`labs`) and the stubs (`stubsOf`) of a layer -/

def labs (layer : List Ref) : List Nat :=
  layer.filterMap (fun r => match r with | .label i => some i | .stub _ _ => none)

theorem labelIds_eq (Ls : List (List Ref)) : labelIds Ls = (Ls.map labs).flatten := by
  unfold labelIds labs
  rw [List.filterMap_flatten]
  rfl

theorem labelIds_cons (l : List Ref) (D : List (List Ref)) : labelIds (l :: D) = labs l ++ labelIds D := by
  rw [labelIds_eq, labelIds_eq, List.map_cons, List.flatten_cons]

theorem labs_append (a b : List Ref) : labs (a ++ b) = labs a ++ labs b := by
  simp [labs, List.filterMap_append]

theorem labs_map_label (ids : List Nat) : labs (ids.map Ref.label) = ids := by
  simp [labs, List.filterMap_map]

theorem labs_map_stub (ids : List Nat) (j : Nat) : labs (ids.map (fun i => Ref.stub i j)) = [] := by
  simp [labs, List.filterMap_map]

theorem stubsOf_append (a b : List Ref) : stubsOf (a ++ b) = stubsOf a ++ stubsOf b := by
  simp [stubsOf, List.filterMap_append]

theorem stubsOf_map_label (ids : List Nat) : stubsOf (ids.map Ref.label) = [] := by
  simp [stubsOf, List.filterMap_map]

theorem stubsOf_map_stub (ids : List Nat) (j : Nat) :
    stubsOf (ids.map (fun i => Ref.stub i j)) = ids.map (fun i => (i, j)) := by
  simp [stubsOf, List.filterMap_map]

theorem mem_labelIds {Ls : List (List Ref)} {i : Nat} : i ∈ labelIds Ls ↔ ∃ l ∈ Ls, Ref.label i ∈ l := by
  simp only [labelIds, List.mem_filterMap, List.mem_flatten]
  constructor
  · rintro ⟨r, ⟨l, hl, hr⟩, h⟩
    cases r with
    | label k => cases h; exact ⟨l, hl, hr⟩
    | stub k lv => cases h
  · rintro ⟨l, hl, hr⟩; exact ⟨_, ⟨l, hl, hr⟩, rfl⟩

theorem mem_stubsOf {l : List Ref} {i lv : Nat} : (i, lv) ∈ stubsOf l ↔ Ref.stub i lv ∈ l := by
  simp only [stubsOf, List.mem_filterMap]
  constructor
  · rintro ⟨r, hr, h⟩
    cases r with
    | label k => cases h
    | stub k lv' => cases h; exact hr
  · intro h; exact ⟨_, h, rfl⟩

/-- the stubs of every layer are one per label of the layers beyond it, tagged with the layer's index -/
def StubChains (Ls : List (List Ref)) : Prop :=
  ∀ j layer, Ls[j]? = some layer → (stubsOf layer).Perm ((labelIds (Ls.drop (j + 1))).map (fun i => (i, j)))

/-! ### `requiredWidth` and `estimateLayers` -/

theorem range_map_widthOf (labels : List Label) :
    (List.range labels.length).map (widthOf labels) = labels.map (·.width) := by
  apply List.ext_getElem
  · simp
  · intro i h1 h2
    have : i < labels.length := by simpa using h2
    simp [widthOf, List.getElem?_eq_getElem this]

theorem requiredWidth_ids (ns : Rat) (labels : List Label) {ids : List Nat}
    (h : ids.Perm (List.range labels.length)) :
    requiredWidth ns (ids.map (widthOf labels)) = requiredWidth ns (labels.map (·.width)) := by
  unfold requiredWidth
  rw [(h.map _).sum_eq, (h.map _).length_eq, range_map_widthOf]

theorem estimateLayers_noWidth (o : DOpts) (ws : List Rat)
    (h : o.layerWidth = none ∨ o.layerWidth = some 0) : estimateLayers o ws = 1 := by
  unfold estimateLayers
  rcases h with h | h <;> simp [h]

theorem estimateLayers_pos (o : DOpts) (ws : List Rat) (hpos : 0 < maxWidthPerLayer o) :
    estimateLayers o ws = (requiredWidth o.nodeSpacing ws / maxWidthPerLayer o).ceil := by
  unfold estimateLayers
  unfold maxWidthPerLayer at hpos
  cases h : o.layerWidth with
  | none => simp [h] at hpos
  | some w =>
    by_cases hw : w = 0
    · simp [h, hw] at hpos
    · simp [hw]

theorem estimateLayers_le_one_iff (o : DOpts) (ws : List Rat) (hpos : 0 < maxWidthPerLayer o) :
    estimateLayers o ws ≤ 1 ↔ requiredWidth o.nodeSpacing ws ≤ maxWidthPerLayer o := by
  rw [estimateLayers_pos o ws hpos, Rat.ceil_le_iff, div_le_iff₀ hpos]
  simp

/-! ### `simpleLayers`: where the labels go and which stubs a layer holds -/

theorem flatMap_ite_single {β : Type} (J : List Nat) (hJ : J.Nodup) (m : Nat) (a : β) :
    J.flatMap (fun j => if m = j then [a] else []) = if m ∈ J then [a] else [] := by
  induction J with
  | nil => simp
  | cons j t ih =>
    rw [List.nodup_cons] at hJ
    rw [List.flatMap_cons, ih hJ.2]
    by_cases h : m = j
    · subst h; simp [hJ.1]
    · have h' : ¬ j = m := fun e => h e.symm
      simp [h]

theorem flatMap_select {β : Type} (J : List Nat) (hJ : J.Nodup) (k : β × Nat → Nat) (Z : List (β × Nat)) :
    (J.flatMap (fun j => Z.filterMap (fun p => if k p = j then some p.1 else none))).Perm
      (Z.filterMap (fun p => if k p ∈ J then some p.1 else none)) := by
  induction Z with
  | nil => simp
  | cons p t ih =>
    have e1 : ∀ j, (p :: t).filterMap (fun p => if k p = j then some p.1 else none)
        = (if k p = j then [p.1] else []) ++ t.filterMap (fun p => if k p = j then some p.1 else none) := by
      intro j
      rw [List.filterMap_cons]
      by_cases h : k p = j <;> simp [h]
    simp only [e1]
    refine (List.flatMap_append_perm J _ _).symm.trans ?_
    rw [flatMap_ite_single J hJ, List.filterMap_cons]
    by_cases h : k p ∈ J
    · simp only [h, if_true]
      exact (ih.cons _)
    · simp only [h, if_false]
      exact ih

/-- what the item at sorted position `p.2` contributes to layer `j` of `simpleLayers`: itself if `j` is its layer, a stub if `j`
is nearer, nothing otherwise -/
def simpleSel (nl j : Nat) (p : Nat × Nat) : Option Ref :=
  if p.2 % nl = j then some (Ref.label p.1)
  else if j < p.2 % nl then some (Ref.stub p.1 j) else none

theorem simpleLayers_eq (ids : List Nat) (nl : Nat) :
    simpleLayers ids nl = (List.range nl).map (fun j => ids.zipIdx.filterMap (simpleSel nl j)) := rfl

theorem labs_simpleLayer (Z : List (Nat × Nat)) (nl j : Nat) :
    labs (Z.filterMap (simpleSel nl j))
    = Z.filterMap (fun p => if p.2 % nl = j then some p.1 else none) := by
  unfold labs
  rw [List.filterMap_filterMap]
  apply List.filterMap_congr
  intro p _
  by_cases h1 : p.2 % nl = j
  · simp [simpleSel, h1]
  · by_cases h2 : j < p.2 % nl <;> simp [simpleSel, h1, h2]

theorem stubsOf_simpleLayer (Z : List (Nat × Nat)) (nl j : Nat) :
    stubsOf (Z.filterMap (simpleSel nl j))
    = Z.filterMap (fun p => if j < p.2 % nl then some (p.1, j) else none) := by
  unfold stubsOf
  rw [List.filterMap_filterMap]
  apply List.filterMap_congr
  intro p _
  by_cases h1 : p.2 % nl = j
  · have : ¬ j < p.2 % nl := by omega
    simp [simpleSel, h1]
  · by_cases h2 : j < p.2 % nl <;> simp [simpleSel, h1, h2]

theorem map_labs_simpleLayers (ids : List Nat) (nl : Nat) :
    (simpleLayers ids nl).map labs = (List.range nl).map (fun j =>
      ids.zipIdx.filterMap (fun p => if p.2 % nl = j then some p.1 else none)) := by
  rw [simpleLayers_eq, List.map_map]
  apply List.map_congr_left
  intro j _
  exact labs_simpleLayer _ _ _

theorem labelIds_simpleLayers (ids : List Nat) (nl : Nat) (hnl : 0 < nl) :
    (labelIds (simpleLayers ids nl)).Perm ids := by
  rw [labelIds_eq, map_labs_simpleLayers, ← List.flatMap_def]
  refine (flatMap_select (List.range nl) List.nodup_range (fun p => p.2 % nl) ids.zipIdx).trans ?_
  have : ids.zipIdx.filterMap (fun p => if p.2 % nl ∈ List.range nl then some p.1 else none)
      = ids.zipIdx.map (·.1) := by
    rw [← List.filterMap_eq_map]
    apply List.filterMap_congr
    intro p _
    simp [Nat.mod_lt _ hnl]
  rw [this, List.zipIdx_map_fst]

theorem simpleLayers_getElem? (ids : List Nat) (nl j : Nat) (layer : List Ref)
    (h : (simpleLayers ids nl)[j]? = some layer) :
    j < nl ∧ layer = ids.zipIdx.filterMap (simpleSel nl j) := by
  obtain ⟨hj, rfl⟩ := List.getElem?_eq_some_iff.1 h
  have hj' : j < nl := by rwa [simpleLayers_eq, List.length_map, List.length_range] at hj
  refine ⟨hj', ?_⟩
  simp only [simpleLayers_eq, List.getElem_map, List.getElem_range]

theorem stubChains_simpleLayers (ids : List Nat) (nl : Nat) : StubChains (simpleLayers ids nl) := by
  intro j layer h
  obtain ⟨hj, rfl⟩ := simpleLayers_getElem? ids nl j layer h
  rw [stubsOf_simpleLayer, labelIds_eq, List.map_drop, map_labs_simpleLayers, ← List.map_drop,
    ← List.flatMap_def]
  have hnd : ((List.range nl).drop (j + 1)).Nodup :=
    (List.drop_sublist _ _).nodup List.nodup_range
  have hm : ∀ m, m < nl → (m ∈ (List.range nl).drop (j + 1) ↔ j < m) := by
    intro m hm
    rw [List.range_eq_range', List.drop_range', List.mem_range'_1, Nat.zero_add, Nat.mul_one,
      Nat.add_sub_cancel' (Nat.succ_le_of_lt hj), and_iff_left hm]
    exact Nat.succ_le_iff
  refine List.Perm.trans ?_
    ((flatMap_select _ hnd (fun p => p.2 % nl) ids.zipIdx).map (fun i => (i, j))).symm
  rw [List.map_filterMap]
  apply List.Perm.of_eq
  apply List.filterMap_congr
  intro p _
  simp only [hm _ (Nat.mod_lt p.2 (Nat.zero_lt_of_lt hj))]
  split <;> rfl

/-! ### `withStubs`: the same -/

theorem map_labs_withStubs (L : List (List Nat)) : (withStubs L).map labs = L := by
  unfold withStubs
  rw [List.map_map]
  conv => rhs; rw [← List.zipIdx_map_fst 0 L]
  apply List.map_congr_left
  intro p _
  simp only [Function.comp, stubsFor, labs_append, labs_map_label, labs_map_stub, List.append_nil]

theorem withStubs_length (L : List (List Nat)) : (withStubs L).length = L.length := by
  simp [withStubs]

theorem withStubs_getElem? (L : List (List Nat)) (j : Nat) :
    (withStubs L)[j]? = (L[j]?).map (fun l => l.map Ref.label ++ stubsFor L j) := by
  unfold withStubs
  rw [List.getElem?_map, List.getElem?_zipIdx]
  cases L[j]? <;> simp

theorem labelIds_withStubs_drop (L : List (List Nat)) (k : Nat) :
    labelIds ((withStubs L).drop k) = (L.drop k).flatten := by
  rw [labelIds_eq, List.map_drop, map_labs_withStubs]

theorem labelIds_withStubs (L : List (List Nat)) : labelIds (withStubs L) = L.flatten :=
  labelIds_withStubs_drop L 0

theorem stubChains_withStubs (L : List (List Nat)) : StubChains (withStubs L) := by
  intro j layer h
  rw [withStubs_getElem?] at h
  obtain ⟨l, -, rfl⟩ := Option.map_eq_some_iff.1 h
  rw [stubsOf_append, stubsOf_map_label, List.nil_append, labelIds_withStubs_drop]
  unfold stubsFor
  rw [stubsOf_map_stub]
  apply List.Perm.map
  rw [List.flatMap_id]
  exact (List.reverse_perm _).flatten

/-! ### layers with complete stub chains -/

def DownClosed (Ls : List (List Ref)) : Prop := Ls.Pairwise (fun l l' => l' ≠ [] → l ≠ [])

theorem contiguous_of_DownClosed (Ls : List (List Ref)) (h : DownClosed Ls) :
    (Ls.dropWhile (fun l => !l.isEmpty)).all (fun l => l.isEmpty) = true := by
  induction Ls with
  | nil => rfl
  | cons l t ih =>
    obtain ⟨hl, ht⟩ := List.pairwise_cons.1 h
    cases l with
    | nil =>
      rw [List.all_eq_true]
      intro x hx
      rcases List.mem_cons.1 hx with rfl | hx
      · rfl
      · exact List.isEmpty_iff.2 (by_contra fun hne => hl x hx hne rfl)
    | cons r l => exact ih ht

theorem StubChains.label_beyond {Ls : List (List Ref)} (h : StubChains Ls) {j : Nat} {r : Ref} (hj : j < Ls.length)
    (hr : r ∈ Ls[j]) : ∃ l ∈ Ls.drop j, Ref.label r.id ∈ l := by
  cases r with
  | label i => exact ⟨_, by rw [List.drop_eq_getElem_cons hj]; exact List.mem_cons_self, hr⟩
  | stub i lv =>
    obtain ⟨i', hi', e⟩ := List.mem_map.1 ((h j _ (List.getElem?_eq_getElem hj)).subset (mem_stubsOf.2 hr))
    obtain ⟨l, hl, hil⟩ := mem_labelIds.1 hi'
    cases e
    exact ⟨l, (List.drop_sublist_drop_left Ls (Nat.le_succ j)).subset hl, hil⟩

theorem StubChains.stub_mem {Ls : List (List Ref)} (h : StubChains Ls) {j j' : Nat} {r : Ref} (hlt : j < j')
    (hj' : j' < Ls.length) (hr : r ∈ Ls[j']) : Ref.stub r.id j ∈ Ls[j]'(hlt.trans hj') := by
  obtain ⟨l, hl, hi⟩ := h.label_beyond hj' hr
  have hl' : l ∈ Ls.drop (j + 1) := (List.drop_sublist_drop_left Ls (Nat.succ_le_of_lt hlt)).subset hl
  exact mem_stubsOf.1 ((h j _ (List.getElem?_eq_getElem (hlt.trans hj'))).symm.subset
    (List.mem_map_of_mem (mem_labelIds.2 ⟨l, hl', hi⟩)))

theorem StubChains.downClosed {Ls : List (List Ref)} (h : StubChains Ls) : DownClosed Ls := by
  refine List.pairwise_iff_getElem.2 fun j j' hj hj' hlt hne e => ?_
  obtain ⟨r, hr⟩ := List.exists_mem_of_ne_nil _ hne
  exact List.not_mem_nil (e ▸ h.stub_mem hlt hj' hr)

theorem StubChains.stub_below {Ls : List (List Ref)} (h : StubChains Ls) (m : Nat) (r : Ref)
    (hr : r ∈ Ls.getD (m + 1) []) : Ref.stub r.id m ∈ Ls.getD m [] := by
  have hm : m + 1 < Ls.length := by
    by_contra hc
    rw [getD_eq_default _ (Nat.le_of_not_lt hc)] at hr
    cases hr
  rw [getD_eq_getElem [] hm] at hr
  rw [getD_eq_getElem [] (Nat.lt_of_succ_lt hm)]
  exact h.stub_mem (Nat.lt_succ_self m) hm hr

theorem map_id_perm (l : List Ref) : (l.map Ref.id).Perm (labs l ++ (stubsOf l).map Prod.fst) := by
  induction l with
  | nil => exact List.Perm.refl _
  | cons r l ih =>
    cases r with
    | label i => exact ih.cons i
    | stub i lv => exact (ih.cons i).trans List.perm_middle.symm

theorem StubChains.ids_nodup {Ls : List (List Ref)} (h : StubChains Ls) (hnd : (labelIds Ls).Nodup) :
    ∀ l ∈ Ls, (l.map Ref.id).Nodup := by
  intro l hl
  obtain ⟨j, hj, rfl⟩ := List.getElem_of_mem hl
  have hp := ((h j _ (List.getElem?_eq_getElem hj)).map Prod.fst)
  rw [List.map_map] at hp
  have hsub : (labelIds (Ls.drop j)).Sublist (labelIds Ls) := by
    rw [labelIds_eq, labelIds_eq]
    exact ((List.drop_sublist j Ls).map labs).flatten
  rw [List.drop_eq_getElem_cons hj, labelIds_cons] at hsub
  refine ((map_id_perm Ls[j]).trans ((hp.trans ?_).append_left _)).nodup_iff.2 (hsub.nodup hnd)
  exact List.Perm.of_eq (List.map_id' _)

/-! ### the loops of `algorithm_overlap`: labels conserved, the width bound -/

theorem punt_cond (n : Nat) (maxW cw : Rat) :
    (decide (Gen.overlapMinLabels < (n : Rat)) && decide (maxW < cw)) = true ↔ 2 < n ∧ maxW < cw := by
  rw [Bool.and_eq_true, decide_eq_true_eq, decide_eq_true_eq]
  unfold Gen.overlapMinLabels
  exact_mod_cast Iff.rfl

section loops
variable (labels : List Label) (o : DOpts) (maxW : Rat)

theorem punt_zero (cur : List (Nat × Int)) (cw : Rat)
    (punted : List Nat) : punt labels o maxW 0 cur cw punted = (cur, punted) := by
  rw [punt]

theorem punt_stop (fuel : Nat) (cur : List (Nat × Int))
    (cw : Rat) (punted : List Nat) (h : ¬ (2 < cur.length ∧ maxW < cw)) :
    punt labels o maxW (fuel + 1) cur cw punted = (cur, punted) := by
  rw [punt, if_neg (mt (punt_cond _ _ _).1 h)]

theorem punt_step (fuel : Nat) (cur : List (Nat × Int))
    (cw : Rat) (punted : List Nat) (h1 : 2 < cur.length) (h2 : maxW < cw)
    (hd : Nat × Int) (rest : List (Nat × Int))
    (hS : cur.mergeSort (fun a b => decide (b.2 ≤ a.2)) = hd :: rest) :
    punt labels o maxW (fuel + 1) cur cw punted =
      punt labels o maxW fuel
        (rest.map (fun p => if overlaps labels hd.1 p.1 then (p.1, p.2 - 1) else p))
        (cw - widthOf labels hd.1 + o.stubWidth) (punted ++ [hd.1]) := by
  rw [punt, if_pos ((punt_cond _ _ _).2 ⟨h1, h2⟩), hS]

theorem countSort_cons {cur : List (Nat × Int)} (h : cur ≠ []) :
    ∃ hd rest, cur.mergeSort (fun a b => decide (b.2 ≤ a.2)) = hd :: rest ∧ (hd :: rest).Perm cur := by
  have hperm := List.mergeSort_perm cur (fun a b => decide (b.2 ≤ a.2))
  cases hS : cur.mergeSort (fun a b => decide (b.2 ≤ a.2)) with
  | nil => rw [hS] at hperm; exact absurd hperm.symm.eq_nil h
  | cons hd rest => exact ⟨hd, rest, rfl, hS ▸ hperm⟩

theorem punt_spec :
    ∀ (fuel : Nat) (cur : List (Nat × Int)) (cw : Rat) (punted : List Nat), cur.length ≤ fuel →
    ∃ removed : List Nat,
      (punt labels o maxW fuel cur cw punted).2 = punted ++ removed ∧
      (((punt labels o maxW fuel cur cw punted).1.map (·.1)) ++ removed).Perm (cur.map (·.1)) ∧
      ((punt labels o maxW fuel cur cw punted).1.length ≤ 2 ∨
        cw - (removed.map (widthOf labels)).sum + o.stubWidth * (removed.length : Rat) ≤ maxW) ∧
      (removed = [] ∨ 2 ≤ (punt labels o maxW fuel cur cw punted).1.length) ∧
      (2 < cur.length → maxW < cw → removed ≠ []) := by
  intro fuel
  induction fuel with
  | zero =>
    intro cur cw punted hlen
    obtain rfl : cur = [] := List.eq_nil_of_length_eq_zero (Nat.le_zero.1 hlen)
    rw [punt_zero]
    exact ⟨[], (List.append_nil _).symm, List.Perm.refl _, Or.inl (Nat.zero_le 2), Or.inl rfl,
      fun h => absurd h (Nat.not_lt_zero 2)⟩
  | succ fuel ih =>
    intro cur cw punted hlen
    by_cases hc : 2 < cur.length ∧ maxW < cw
    · obtain ⟨h1, h2⟩ := hc
      obtain ⟨hd, rest, hS, hperm⟩ := countSort_cons (cur := cur) (by intro e; rw [e] at h1; cases h1)
      have hlen2 : rest.length + 1 = cur.length := hperm.length_eq
      have hperm1 := hperm.map (·.1)
      rw [punt_step labels o maxW fuel cur cw punted h1 h2 hd rest hS]
      obtain ⟨removed', e2, ep, e3, e4, -⟩ :=
        ih (rest.map (fun p => if overlaps labels hd.1 p.1 then (p.1, p.2 - 1) else p))
          (cw - widthOf labels hd.1 + o.stubWidth) (punted ++ [hd.1])
          (by rw [List.length_map]; exact Nat.le_of_succ_le_succ (hlen2.trans_le hlen))
      have hmap : (rest.map (fun p => if overlaps labels hd.1 p.1 then (p.1, p.2 - 1) else p)).map (·.1)
          = rest.map (·.1) := by
        rw [List.map_map]
        apply List.map_congr_left
        intro p _
        by_cases hov : overlaps labels hd.1 p.1 <;> simp [hov]
      rw [hmap] at ep
      refine ⟨hd.1 :: removed', by rw [e2, List.append_assoc]; rfl,
        List.perm_middle.trans ((ep.cons hd.1).trans hperm1), e3.imp_right fun e3 => ?_,
        Or.inr ?_, fun _ _ => List.cons_ne_nil _ _⟩
      · simp only [List.map_cons, List.sum_cons, List.length_cons, Nat.cast_add, Nat.cast_one]
        exact (by ring : _ = _).trans_le e3
      · rcases e4 with rfl | e4
        · have := ep.length_eq
          simp only [List.append_nil, List.length_map] at this
          rw [this]
          exact Nat.le_of_lt_succ (h1.trans_eq hlen2.symm)
        · exact e4
    · rw [punt_stop labels o maxW fuel cur cw punted hc]
      refine ⟨[], (List.append_nil _).symm, List.Perm.of_eq (List.append_nil _), ?_, Or.inl rfl,
        fun h1 h2 => absurd ⟨h1, h2⟩ hc⟩
      simp only [List.map_nil, List.sum_nil, List.length_nil, Nat.cast_zero, mul_zero, sub_zero, add_zero]
      by_cases h1 : 2 < cur.length
      · exact Or.inr (le_of_not_gt fun h2 => hc ⟨h1, h2⟩)
      · exact Or.inl (by omega)

theorem overlapLayers_zero (punted : List Nat) :
    overlapLayers labels o maxW 0 punted = if punted.isEmpty then [] else [punted] := by
  rw [overlapLayers]

theorem overlapLayers_stop (fuel : Nat) (punted : List Nat)
    (h : ¬ maxW < requiredWidth o.nodeSpacing (punted.map (widthOf labels))) :
    overlapLayers labels o maxW (fuel + 1) punted = if punted.isEmpty then [] else [punted] := by
  rw [overlapLayers]
  simp only [h, if_false]

/-- the result of the inner loop started on the list `punted` -/
def puntOf (punted : List Nat) :
    List (Nat × Int) × List Nat :=
  punt labels o maxW punted.length
    (punted.map (fun i => (i, ((punted.filter (overlaps labels i)).length : Int))))
    (requiredWidth o.nodeSpacing (punted.map (widthOf labels))) []

theorem overlapLayers_step (fuel : Nat) (punted : List Nat)
    (h : maxW < requiredWidth o.nodeSpacing (punted.map (widthOf labels))) :
    overlapLayers labels o maxW (fuel + 1) punted =
      ((puntOf labels o maxW punted).1.map (·.1)) ::
        overlapLayers labels o maxW fuel (puntOf labels o maxW punted).2 := by
  rw [overlapLayers]
  simp only [h, if_true]
  rfl

/-- `punt_spec` for a whole round: kept and punted labels together are the round's input; the kept ones with one stub per punted
label fit `maxW` unless at most two are kept; nothing is punted below two kept labels; a round that starts above two labels and
above `maxW` punts something (so the outer loop makes progress) -/
theorem puntOf_spec (punted : List Nat) :
    (((puntOf labels o maxW punted).1.map (·.1)) ++ (puntOf labels o maxW punted).2).Perm punted ∧
    ((puntOf labels o maxW punted).1.length ≤ 2 ∨
      requiredWidth o.nodeSpacing (punted.map (widthOf labels))
        - ((puntOf labels o maxW punted).2.map (widthOf labels)).sum
        + o.stubWidth * ((puntOf labels o maxW punted).2.length : Rat) ≤ maxW) ∧
    ((puntOf labels o maxW punted).2 = [] ∨ 2 ≤ (puntOf labels o maxW punted).1.length) ∧
    (2 < punted.length → maxW < requiredWidth o.nodeSpacing (punted.map (widthOf labels)) →
      (puntOf labels o maxW punted).2 ≠ []) := by
  obtain ⟨removed, e2, ep, e3, e4, e5⟩ := punt_spec labels o maxW punted.length
    (punted.map (fun i => (i, ((punted.filter (overlaps labels i)).length : Int))))
    (requiredWidth o.nodeSpacing (punted.map (widthOf labels))) [] (by simp)
  simp only [List.nil_append, List.length_map, List.map_map, Function.comp_def, List.map_id'] at e2 ep e3 e4 e5
  unfold puntOf
  rw [e2]
  exact ⟨ep, e3, e4, e5⟩

theorem overlapLayers_perm :
    ∀ (fuel : Nat) (punted : List Nat), (overlapLayers labels o maxW fuel punted).flatten.Perm punted := by
  intro fuel
  induction fuel with
  | zero =>
    intro punted
    rw [overlapLayers_zero]
    cases punted <;> simp
  | succ fuel ih =>
    intro punted
    by_cases h : maxW < requiredWidth o.nodeSpacing (punted.map (widthOf labels))
    · rw [overlapLayers_step labels o maxW fuel punted h, List.flatten_cons]
      exact ((ih _).append_left _).trans (puntOf_spec labels o maxW punted).1
    · rw [overlapLayers_stop labels o maxW fuel punted h]
      cases punted <;> simp

theorem overlapLayers_ne_nil (fuel : Nat) (punted : List Nat)
    (hne : punted ≠ []) : overlapLayers labels o maxW fuel punted ≠ [] := by
  have hemp : punted.isEmpty = false := by cases punted <;> simp_all
  cases fuel with
  | zero => rw [overlapLayers_zero, hemp]; simp
  | succ fuel =>
    by_cases h : maxW < requiredWidth o.nodeSpacing (punted.map (widthOf labels))
    · rw [overlapLayers_step labels o maxW fuel punted h]; simp
    · rw [overlapLayers_stop labels o maxW fuel punted h, hemp]; simp

theorem overlapLayers_two (fuel : Nat) (punted : List Nat)
    (h3 : 3 ≤ punted.length) (h : maxW < requiredWidth o.nodeSpacing (punted.map (widthOf labels))) :
    2 ≤ (overlapLayers labels o maxW (fuel + 1) punted).length := by
  rw [overlapLayers_step labels o maxW fuel punted h, List.length_cons]
  have hne := (puntOf_spec labels o maxW punted).2.2.2 h3 h
  exact Nat.succ_le_succ (List.length_pos_of_ne_nil (overlapLayers_ne_nil labels o maxW fuel _ hne))

/-- every label layer, together with one stub per label of the later layers, fits the budget or holds
at most two labels -/
def CapOK (L : List (List Nat)) : Prop :=
  ∀ (j : Nat) (l : List Nat), L[j]? = some l →
    (l.map (widthOf labels)).sum + o.stubWidth * (((L.drop (j + 1)).flatten.length : Nat) : Rat)
      + o.nodeSpacing * (((l.length + (L.drop (j + 1)).flatten.length : Nat)) : Rat) - o.nodeSpacing ≤ maxW
    ∨ l.length ≤ 2

theorem capOK_nil : CapOK labels o maxW [] := by
  intro j l h; simp at h

theorem capOK_cons {labels : List Label} {o : DOpts} {maxW : Rat} {l : List Nat} {L : List (List Nat)} :
    CapOK labels o maxW (l :: L) ↔
      ((l.map (widthOf labels)).sum + o.stubWidth * ((L.flatten.length : Nat) : Rat)
          + o.nodeSpacing * (((l.length + L.flatten.length : Nat)) : Rat) - o.nodeSpacing ≤ maxW
        ∨ l.length ≤ 2) ∧ CapOK labels o maxW L :=
  ⟨fun h => ⟨h 0 l rfl, fun j l' hj => h (j + 1) l' hj⟩, fun ⟨h0, hL⟩ j l' hj => by
    cases j with
    | zero => cases hj; exact h0
    | succ j => exact hL j l' hj⟩

theorem capOK_last (punted : List Nat)
    (h : ¬ maxW < requiredWidth o.nodeSpacing (punted.map (widthOf labels))) :
    CapOK labels o maxW (if punted.isEmpty then [] else [punted]) := by
  cases punted with
  | nil => exact capOK_nil labels o maxW
  | cons a t =>
    refine capOK_cons.2 ⟨Or.inl ?_, capOK_nil labels o maxW⟩
    have := le_of_not_gt h
    rw [requiredWidth, List.length_map] at this
    show _ + o.stubWidth * ((0 : Nat) : Rat) + o.nodeSpacing * (((a :: t).length + 0 : Nat) : Rat) - _ ≤ _
    rw [Nat.cast_zero, mul_zero, add_zero, Nat.add_zero]
    exact this

theorem capOK_overlapLayers :
    ∀ (fuel : Nat) (punted : List Nat), (punted = [] ∨ punted.length < fuel) →
      CapOK labels o maxW (overlapLayers labels o maxW fuel punted) := by
  intro fuel
  induction fuel with
  | zero =>
    intro punted hf
    obtain rfl : punted = [] := hf.elim id (fun h => absurd h (Nat.not_lt_zero _))
    exact capOK_nil labels o maxW
  | succ fuel ih =>
    intro punted hf
    by_cases h : maxW < requiredWidth o.nodeSpacing (punted.map (widthOf labels))
    · rw [overlapLayers_step labels o maxW fuel punted h]
      obtain ⟨hp, hcap, h4, _⟩ := puntOf_spec labels o maxW punted
      generalize (puntOf labels o maxW punted).1 = kept at hp hcap h4 ⊢
      generalize (puntOf labels o maxW punted).2 = rem at hp hcap h4 ⊢
      have hlenp : kept.length + rem.length = punted.length := by
        rw [← hp.length_eq, List.length_append, List.length_map]
      -- at least two labels stay behind whenever one is punted, so the fuel lasts
      have hf' : rem = [] ∨ rem.length < fuel := h4.imp_right fun h4 => by
        rcases hf with rfl | hf
        · rw [List.length_nil] at hlenp; omega
        · omega
      refine capOK_cons.2 ⟨hcap.symm.imp (fun hcap => ?_) (fun hcap => by rwa [List.length_map]), ih rem hf'⟩
      have hsum : (punted.map (widthOf labels)).sum
          = ((kept.map (·.1)).map (widthOf labels)).sum + (rem.map (widthOf labels)).sum := by
        rw [← List.sum_append, ← List.map_append]
        exact ((hp.map _).sum_eq).symm
      rw [(overlapLayers_perm labels o maxW fuel rem).length_eq, List.length_map]
      unfold requiredWidth at hcap
      rw [hsum, List.length_map, ← hlenp] at hcap
      exact (by ring : _ = _).trans_le hcap
    · rw [overlapLayers_stop labels o maxW fuel punted h]
      exact capOK_last labels o maxW punted h

theorem filter_nonstub_layer (l : List Nat) (X : List Nat) (j : Nat) :
    ((l.map Ref.label ++ X.map (fun i => Ref.stub i j)).filter (fun r => !r.isStub)).length = l.length := by
  simp [List.filter_append, List.filter_map, Function.comp_def, Ref.isStub]

theorem map_refWidth_layer (labels : List Label) (sw : Rat) (l : List Nat) (X : List Nat) (j : Nat) :
    (l.map Ref.label ++ X.map (fun i => Ref.stub i j)).map (refWidth labels sw)
      = l.map (widthOf labels) ++ X.map (fun _ => sw) := by
  rw [List.map_append, List.map_map, List.map_map]
  rfl

theorem capacity_withStubs (L : List (List Nat))
    (h : CapOK labels o maxW L) :
    ∀ layer ∈ withStubs L,
      requiredWidth o.nodeSpacing (layer.map (refWidth labels o.stubWidth)) ≤ maxW ∨
      (layer.filter (fun r => !r.isStub)).length ≤ 2 := by
  intro layer hmem
  obtain ⟨j, hj⟩ := List.mem_iff_getElem?.1 hmem
  rw [withStubs_getElem?] at hj
  obtain ⟨l, hl, rfl⟩ := Option.map_eq_some_iff.1 hj
  unfold stubsFor
  rw [filter_nonstub_layer, map_refWidth_layer]
  refine (h j l hl).imp_left fun hc => ?_
  unfold requiredWidth
  have hlen : ((L.drop (j + 1)).reverse.flatMap id).length = (L.drop (j + 1)).flatten.length := by
    rw [List.flatMap_id]
    exact ((List.reverse_perm _).flatten).length_eq
  rw [List.sum_append, List.length_append, List.length_map, List.length_map, hlen, List.map_const',
    List.sum_replicate, nsmul_eq_mul, hlen, mul_comm]
  exact hc

end loops

/-! ### `distribute`: labels conserved, stub chains complete -/

theorem labelIds_distribute (o : DOpts) (labels : List Label) :
    (labelIds (distribute o labels)).Perm (List.range labels.length) := by
  rcases distribute_cases o labels with ⟨hnil, e⟩ | ⟨_, ids, hp, e⟩ | ⟨_, _, nl, hnl, e⟩ | ⟨_, _, _, e⟩
  · subst hnil; rw [e]; exact List.Perm.refl _
  · rw [e, labelIds_eq]
    simpa [labs_map_label] using hp
  · rw [e]
    exact (labelIds_simpleLayers _ nl (by omega)).trans (sortIds_perm labels)
  · rw [e, labelIds_withStubs]
    exact (overlapLayers_perm labels o _ _ _).trans (sortIds_perm labels)

theorem stubChains_distribute (o : DOpts) (labels : List Label) : StubChains (distribute o labels) := by
  rcases distribute_cases o labels with ⟨_, e⟩ | ⟨_, ids, _, e⟩ | ⟨_, _, nl, _, e⟩ | ⟨_, _, _, e⟩
  · rw [e]
    intro j layer h
    cases h
  · rw [e]
    intro j layer h
    cases j with
    | zero =>
      cases h
      rw [stubsOf_map_label]
      exact List.Perm.refl _
    | succ j => cases h
  · rw [e]
    exact stubChains_simpleLayers _ nl
  · rw [e]
    exact stubChains_withStubs _

theorem distribute_shape (o : DOpts) (labels : List Label) :
    (∀ l ∈ distribute o labels, (l.map Ref.id).Nodup) ∧
    (∀ m, ∀ r ∈ (distribute o labels).getD (m + 1) [], Ref.stub r.id m ∈ (distribute o labels).getD m []) :=
  ⟨(stubChains_distribute o labels).ids_nodup ((labelIds_distribute o labels).nodup_iff.2 List.nodup_range),
    (stubChains_distribute o labels).stub_below⟩

end Labella.Layout
