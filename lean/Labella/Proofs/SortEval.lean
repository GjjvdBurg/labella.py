import Labella.Model.Layout
import Mathlib.Algebra.Order.Field.Rat
import Mathlib.Order.Basic
/-! Kernel-evaluable form of the layout pipeline.

`List.mergeSort` (and `List.merge`) are defined by well-founded recursion and do not reduce in the kernel, so closed
instances of `compute` cannot be checked by `decide +kernel` directly.  A stable merge sort by a total preorder equals
the stable insertion sort `isort`, which is structurally recursive; `compute'` is `compute` with every sort replaced by
`isort`, and `compute'_eq : compute' = compute`.

The primed definitions (`removeOverlap'`, `punt'`, `overlapLayers'`, `distribute'`, `placeLayer'`, `placeLayers'`, `compute'` here;
`distributeT'`, `removeOverlapT'`, `computeT'`, `World.step'`, `World.run'` in `Proofs/EngineTEval.lean`; `MWorld.step'`,
`MWorld.run'` in `Proofs/EngineTMultiEval.lean`) are copies by hand of the model definitions of the same name, differing in the
sort or in calling the primed callee.  An edit of a model definition has to be repeated in its copy; the `_eq` theorem next to
each copy, proved by unfolding both sides, fails if the two have drifted apart. -/
namespace Labella.Layout
open Labella

def insBy {α : Type} (le : α → α → Bool) (a : α) : List α → List α
  | [] => [a]
  | b :: t => if le a b then a :: b :: t else b :: insBy le a t

def isort {α : Type} (le : α → α → Bool) (l : List α) : List α := l.foldr (insBy le) []

theorem insBy_append {α : Type} (le : α → α → Bool) (a : α) (l₁ l₂ : List α)
    (h1 : ∀ b ∈ l₁, (!le a b) = true) (h2 : ∀ b ∈ l₂, le a b = true) :
    insBy le a (l₁ ++ l₂) = l₁ ++ a :: l₂ := by
  induction l₁ with
  | nil =>
    cases l₂ with
    | nil => rfl
    | cons b t => simp [insBy, h2 b (by simp)]
  | cons c t ih =>
    have hc : le a c = false := by simpa using h1 c (by simp)
    simp only [List.cons_append, insBy, hc, Bool.false_eq_true, if_false]
    rw [ih (fun b hb => h1 b (by simp [hb]))]

theorem mergeSort_eq_isort {α : Type} (le : α → α → Bool)
    (trans : ∀ (a b c : α), le a b → le b c → le a c)
    (total : ∀ (a b : α), le a b || le b a) (l : List α) :
    l.mergeSort le = isort le l := by
  induction l with
  | nil => simp [isort]
  | cons a l ih =>
    obtain ⟨l₁, l₂, e1, e2, h1⟩ := List.mergeSort_cons trans total a l
    have hs := List.pairwise_mergeSort trans total (a :: l)
    rw [e1] at hs
    have h2 : ∀ b ∈ l₂, le a b = true := by
      intro b hb
      have := (List.pairwise_append.1 hs).2.1
      exact List.rel_of_pairwise_cons this hb
    show _ = insBy le a (isort le l)
    rw [← ih, e2, e1, insBy_append le a l₁ l₂ h1 h2]

/-- comparing by a key in a linear order is transitive and total, in the form `List.mergeSort`'s lemmas ask for -/
theorem key_le_trans {α β : Type} [LinearOrder β] (key : α → β) (a b c : α) :
    decide (key a ≤ key b) = true → decide (key b ≤ key c) = true → decide (key a ≤ key c) = true := by
  simp only [decide_eq_true_eq]; exact le_trans

theorem key_le_total {α β : Type} [LinearOrder β] (key : α → β) (a b : α) :
    (decide (key a ≤ key b) || decide (key b ≤ key a)) = true := by
  simp only [Bool.or_eq_true, decide_eq_true_eq]; exact le_total _ _

theorem pairwise_mergeSort_key {α β : Type} [LinearOrder β] (key : α → β) (l : List α) :
    (l.mergeSort (fun a b => decide (key a ≤ key b))).Pairwise (fun a b => key a ≤ key b) :=
  (List.pairwise_mergeSort (key_le_trans key) (key_le_total key) l).imp (by intro a b hab; simpa using hab)

theorem sortIds_isort (labels : List Label) :
    sortIds labels = (isort (fun a b => decide (a.1.ideal ≤ b.1.ideal)) labels.zipIdx).map (·.2) := by
  unfold sortIds
  rw [mergeSort_eq_isort _ (key_le_trans fun a : Label × Nat => a.1.ideal)
    (key_le_total fun a : Label × Nat => a.1.ideal)]

theorem sortItems_isort (items : List (LItem × Nat)) :
    sortItems items = isort (fun a b => decide (a.1.target ≤ b.1.target)) items :=
  mergeSort_eq_isort _ (key_le_trans fun a : LItem × Nat => a.1.target)
    (key_le_total fun a : LItem × Nat => a.1.target) items

theorem countSort_isort (cur : List (Nat × Int)) :
    cur.mergeSort (fun a b => decide (b.2 ≤ a.2)) = isort (fun a b => decide (b.2 ≤ a.2)) cur := by
  rw [mergeSort_eq_isort]
  · intro a b c hab hbc; simp only [decide_eq_true_eq] at *; exact le_trans hbc hab
  · intro a b; simp only [Bool.or_eq_true, decide_eq_true_eq]; exact le_total _ _

def removeOverlap' (o : ROpts) (items : List LItem) : ROut :=
  let sorted := isort (fun a b => decide (a.1.target ≤ b.1.target)) items.zipIdx
  let its := sorted.map (·.1)
  let xs := if its.isEmpty then [] else solveSorted o its
  { order := sorted.map (·.2), xs := xs, pos := xs.map roundHalfEven }

theorem removeOverlap'_eq (o : ROpts) (items : List LItem) : removeOverlap' o items = removeOverlap o items := by
  unfold removeOverlap' removeOverlap
  rw [sortItems_isort]

def punt' (labels : List Label) (o : DOpts) (maxW : Rat) :
    Nat → List (Nat × Int) → Rat → List Nat → List (Nat × Int) × List Nat
  | 0, cur, _, punted => (cur, punted)
  | fuel+1, cur, cw, punted =>
    if decide (Gen.overlapMinLabels < (cur.length : Rat)) && decide (maxW < cw) then
      match isort (fun a b => decide (b.2 ≤ a.2)) cur with
      | [] => (cur, punted)
      | h :: rest =>
        let rest' := rest.map (fun p => if overlaps labels h.1 p.1 then (p.1, p.2 - 1) else p)
        punt' labels o maxW fuel rest' (cw - widthOf labels h.1 + o.stubWidth) (punted ++ [h.1])
    else (cur, punted)

theorem punt'_eq (labels : List Label) (o : DOpts) (maxW : Rat) :
    ∀ (fuel : Nat) (cur : List (Nat × Int)) (cw : Rat) (punted : List Nat),
      punt' labels o maxW fuel cur cw punted = punt labels o maxW fuel cur cw punted := by
  intro fuel
  induction fuel with
  | zero => intro cur cw punted; rw [punt, punt']
  | succ fuel ih =>
    intro cur cw punted
    rw [punt, punt', countSort_isort]
    simp only [ih]
    by_cases hc : (decide (Gen.overlapMinLabels < (cur.length : Rat)) && decide (maxW < cw)) = true
    · rw [if_pos hc, if_pos hc]
      cases isort (fun a b : Nat × Int => decide (b.2 ≤ a.2)) cur <;> rfl
    · rw [if_neg hc, if_neg hc]

def overlapLayers' (labels : List Label) (o : DOpts) (maxW : Rat) :
    Nat → List Nat → List (List Nat)
  | 0, punted => if punted.isEmpty then [] else [punted]
  | fuel+1, punted =>
    let pw := requiredWidth o.nodeSpacing (punted.map (widthOf labels))
    if maxW < pw then
      let counted := punted.map (fun i => (i, ((punted.filter (overlaps labels i)).length : Int)))
      let r := punt' labels o maxW punted.length counted pw []
      (r.1.map (·.1)) :: overlapLayers' labels o maxW fuel r.2
    else if punted.isEmpty then [] else [punted]

theorem overlapLayers'_eq (labels : List Label) (o : DOpts) (maxW : Rat) :
    ∀ (fuel : Nat) (punted : List Nat),
      overlapLayers' labels o maxW fuel punted = overlapLayers labels o maxW fuel punted := by
  intro fuel
  induction fuel with
  | zero => intro punted; rw [overlapLayers, overlapLayers']
  | succ fuel ih =>
    intro punted
    rw [overlapLayers, overlapLayers']
    simp only [punt'_eq, ih]

def distribute' (o : DOpts) (labels : List Label) : List (List Ref) :=
  if labels.isEmpty then [] else
  match o.algorithm with
  | .none => [(List.range labels.length).map Ref.label]
  | alg =>
    let ids := (isort (fun a b => decide (a.1.ideal ≤ b.1.ideal)) labels.zipIdx).map (·.2)
    let nl := estimateLayers o (ids.map (widthOf labels))
    if nl ≤ 1 then [ids.map Ref.label] else
    match alg with
    | .simple => simpleLayers ids nl.toNat
    | _ => withStubs (overlapLayers' labels o (maxWidthPerLayer o) (ids.length + 1) ids)

theorem distribute'_eq (o : DOpts) (labels : List Label) : distribute' o labels = distribute o labels := by
  unfold distribute' distribute
  simp only [overlapLayers'_eq, ← sortIds_isort]
  rcases o with ⟨alg, a, b, c, d⟩
  cases alg <;> rfl

def placeLayer' (o : FOpts) (labels : List Label) (prev : Option (List Placed)) (layer : List Ref) :
    List Placed :=
  let out := removeOverlap' o.toR (layer.map (layerItem o labels prev))
  List.zipWith (fun idx p => { ref := layer.getD idx (Ref.label 0), pos := p }) out.order out.pos

theorem placeLayer'_eq (o : FOpts) (labels : List Label) (prev : Option (List Placed)) (layer : List Ref) :
    placeLayer' o labels prev layer = placeLayer o labels prev layer := by
  unfold placeLayer' placeLayer
  rw [removeOverlap'_eq]

def placeLayers' (o : FOpts) (labels : List Label) :
    Option (List Placed) → List (List Ref) → List (List Placed)
  | _, [] => []
  | prev, l :: ls =>
    let placed := placeLayer' o labels prev l
    placed :: placeLayers' o labels (some placed) ls

theorem placeLayers'_eq (o : FOpts) (labels : List Label) :
    ∀ (layers : List (List Ref)) (prev : Option (List Placed)),
      placeLayers' o labels prev layers = placeLayers o labels prev layers := by
  intro layers
  induction layers with
  | nil => intro prev; rfl
  | cons l ls ih =>
    intro prev
    simp only [placeLayers', placeLayers, placeLayer'_eq, ih]

def compute' (o : FOpts) (labels : List Label) : List (List Placed) :=
  placeLayers' o labels none (distribute' o.toD labels)

theorem compute'_eq (o : FOpts) (labels : List Label) : compute' o labels = compute o labels := by
  unfold compute' compute
  rw [distribute'_eq, placeLayers'_eq]

end Labella.Layout
