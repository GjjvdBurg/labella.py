import Labella.Proofs.ChainSolve
import Labella.Proofs.Rounding
import Labella.Proofs.SortEval
import Labella.Model.LayoutSpec
/-! List facts about `getD`, `find?` and `foldl` that the layout and engine proofs share; then `removeOverlap`: the chain instance it
builds, the order and number of its outputs, the Bool predicates, walls (helpers for C01/C03) -/
namespace Labella

/-! ### lists -/

theorem getD_eq_getElem {α : Type} {l : List α} {k : Nat} (d : α) (hk : k < l.length) : l.getD k d = l[k] := by
  rw [List.getD_eq_getElem?_getD, List.getElem?_eq_getElem hk, Option.getD_some]

theorem getD_eq_default {α : Type} {l : List α} {k : Nat} (d : α) (hk : l.length ≤ k) : l.getD k d = d := by
  rw [List.getD_eq_getElem?_getD, List.getElem?_eq_none hk, Option.getD_none]

theorem getD_mem {α : Type} {l : List α} {k : Nat} {d : α} (hk : k < l.length) : l.getD k d ∈ l := by
  rw [getD_eq_getElem d hk]
  exact List.getElem_mem hk

theorem range_map_getD {α : Type} (l : List α) (d : α) : (List.range l.length).map (fun k => l.getD k d) = l := by
  apply List.ext_getElem
  · simp
  · intro i h1 h2
    rw [List.getElem_map, List.getElem_range, getD_eq_getElem d h2]

theorem getD_map {α β : Type} (f : α → β) (l : List α) (k : Nat) (d : α) : (l.map f).getD k (f d) = f (l.getD k d) := by
  rw [List.getD_eq_getElem?_getD, List.getD_eq_getElem?_getD, List.getElem?_map]
  cases l[k]? <;> rfl

theorem find?_unique {α : Type} (p : α → Bool) : ∀ (l : List α) (a : α), a ∈ l → p a = true →
    (∀ b ∈ l, p b = true → b = a) → l.find? p = some a := by
  intro l
  induction l with
  | nil => intro a ha; cases ha
  | cons b t ih =>
    intro a ha hpa hu
    by_cases hb : p b = true
    · rw [List.find?_cons_of_pos hb, hu b (by simp) hb]
    · rw [List.find?_cons_of_neg hb]
      rcases List.mem_cons.1 ha with rfl | ha
      · exact absurd hpa hb
      · exact ih a ha hpa (fun c hc hpc => hu c (by simp [hc]) hpc)

theorem foldl_invariant {σ α : Type} (P : σ → Prop) (f : σ → α → σ) (hf : ∀ w a, P w → P (f w a)) :
    ∀ (l : List α) (w : σ), P w → P (l.foldl f w)
  | [], _, h => h
  | a :: l, w, h => foldl_invariant P f hf l (f w a) (hf w a h)

end Labella

namespace Labella.Layout
open Labella Labella.Chain

theorem eps_nonneg' : 0 ≤ Layout.eps := by
  unfold Layout.eps Gen.zeroUpperBound; norm_num

theorem wallWeight_pos' : 0 < Gen.wallWeight := by
  unfold Gen.wallWeight; norm_num

theorem halfDivisor_eq' : Gen.halfDivisor = 2 := rfl

theorem sort_sorted' (items : List (LItem × Nat)) :
    (sortItems items).Pairwise (fun a b => a.1.target ≤ b.1.target) :=
  pairwise_mergeSort_key (fun a : LItem × Nat => a.1.target) items

theorem sort_perm' (items : List (LItem × Nat)) : (sortItems items).Perm items :=
  List.mergeSort_perm _ _

theorem chainVars_pos (o : ROpts) (its : List LItem) : ∀ v ∈ chainVars o its, 0 < v.w := by
  intro v hv
  simp only [chainVars, List.mem_append, List.mem_map] at hv
  rcases hv with (hv | ⟨i, _, rfl⟩) | hv
  · unfold leftWall at hv
    split at hv
    · simp only [List.mem_singleton] at hv; subst hv; exact wallWeight_pos'
    · simp at hv
  · simp [toVar]
  · unfold rightWall at hv
    split at hv
    · simp only [List.mem_singleton] at hv; subst hv; exact wallWeight_pos'
    · simp at hv

theorem gaps_length (o : ROpts) : ∀ its : List LItem, (gaps o its).length = its.length - 1
  | [] => rfl
  | [_] => rfl
  | a :: b :: its => by rw [gaps, List.length_cons, gaps_length o (b :: its)]; rfl

theorem leftGap_length (o : ROpts) {its : List LItem} (h : its ≠ []) :
    (leftGap o its).length = (leftWall o).length := by
  cases its with
  | nil => exact absurd rfl h
  | cons f its =>
    unfold leftGap leftWall
    cases o.minPos <;> simp

theorem rightGap_length (o : ROpts) {its : List LItem} (h : its ≠ []) :
    (rightGap o its).length = (rightWall o).length := by
  unfold rightGap rightWall
  cases hl : its.getLast? with
  | none => exact absurd (List.getLast?_eq_none_iff.mp hl) h
  | some l => cases o.maxPos <;> simp

theorem chain_lengths (o : ROpts) {its : List LItem} (h : its ≠ []) :
    (chainGaps o its).length + 1 = (chainVars o its).length := by
  have : 0 < its.length := List.length_pos_iff.mpr h
  simp only [chainGaps, chainVars, List.length_append, List.length_map, gaps_length,
    leftGap_length o h, rightGap_length o h]
  omega

theorem leftWall_length_le (o : ROpts) : (leftWall o).length ≤ 1 := by
  unfold leftWall; cases o.minPos <;> simp

theorem rightWall_length_le (o : ROpts) : (rightWall o).length ≤ 1 := by
  unfold rightWall; cases o.maxPos <;> simp

theorem chainVars_length (o : ROpts) (its : List LItem) :
    (chainVars o its).length = (leftWall o).length + its.length + (rightWall o).length := by
  simp only [chainVars, List.length_append, List.length_map]

theorem solveSorted_length' (o : ROpts) (its : List LItem) (h : its ≠ []) :
    (solveSorted o its).length = its.length := by
  unfold solveSorted
  rw [List.length_take, List.length_drop, solve_length' _ _ _ (chain_lengths o h)]
  simp only [chainVars, List.length_append, List.length_map]
  omega

theorem solveSorted_getElem? (o : ROpts) (its : List LItem) {k : ℕ} (hk : k < its.length) :
    (solveSorted o its)[k]? =
      (solve Layout.eps (chainVars o its) (chainGaps o its))[(leftWall o).length + k]? := by
  unfold solveSorted
  rw [List.getElem?_take_of_lt hk, List.getElem?_drop]

theorem solveSorted_SepBy (o : ROpts) (its : List LItem) :
    SepBy Layout.eps (gaps o its) (solveSorted o its) := by
  have hall := solve_feasible' Layout.eps eps_nonneg' _ (chainGaps o its) (chainVars_pos o its)
  apply SepBy_of_getElem?
  intro i g a b hg ha hb
  have hi : i + 1 < its.length := by
    have := (List.getElem?_eq_some_iff.1 hg).1
    rw [gaps_length] at this; omega
  have h : its ≠ [] := fun h => by rw [h] at hi; cases hi
  rw [solveSorted_getElem? o its (Nat.lt_of_succ_lt hi)] at ha
  rw [solveSorted_getElem? o its hi] at hb
  refine SepBy_getElem? _ _ hall ((leftWall o).length + i) g a b ?_ ha hb
  rw [chainGaps, List.append_assoc, List.getElem?_append_right (by rw [leftGap_length o h]; omega),
    leftGap_length o h, Nat.add_sub_cancel_left, List.getElem?_append_left (by rw [gaps_length]; omega)]
  exact hg

theorem sepAdjB_cons_cons {o : ROpts} {tol : ℚ} {a b : LItem × ℚ} {rest : List (LItem × ℚ)} :
    sepAdjB o tol (a :: b :: rest) = true ↔
      (a.1.target ≤ b.1.target ∧ gap o a.1 b.1 - tol ≤ b.2 - a.2) ∧ sepAdjB o tol (b :: rest) = true := by
  simp only [sepAdjB, Bool.and_eq_true, decide_eq_true_eq]

/-- the gap written out: `gap o a b` with `Gen.halfDivisor = 2` is `(a.width + b.width) / 2 + spacing o a b` -/
theorem sepAdjB_head {o : ROpts} {e : ℚ} {a b : LItem × ℚ} {rest : List (LItem × ℚ)}
    (h : sepAdjB o e (a :: b :: rest) = true) :
    (a.1.width + b.1.width) / 2 + spacing o a.1 b.1 - e ≤ b.2 - a.2 :=
  (sepAdjB_cons_cons.1 h).1.2

theorem sepAdjB_tail {o : ROpts} {tol : ℚ} {a : LItem × ℚ} {rest : List (LItem × ℚ)}
    (h : sepAdjB o tol (a :: rest) = true) : sepAdjB o tol rest = true := by
  cases rest with
  | nil => rfl
  | cons b rest => exact (sepAdjB_cons_cons.1 h).2

theorem sepAdjB_of_SepBy (o : ROpts) (e : ℚ) (its : List LItem) (xs : List ℚ)
    (hs : its.Pairwise (fun a b => a.target ≤ b.target)) (h : SepBy e (gaps o its) xs) :
    sepAdjB o e (its.zip xs) = true := by
  induction its generalizing xs with
  | nil => rfl
  | cons a its ih =>
    cases its with
    | nil => cases xs <;> rfl
    | cons b its =>
      match xs with
      | [] | [_] => rfl
      | x :: y :: xs =>
        obtain ⟨hab, hs'⟩ := List.pairwise_cons.mp hs
        exact sepAdjB_cons_cons.2 ⟨⟨hab b List.mem_cons_self, h.1⟩, ih (y :: xs) hs' h.2⟩

theorem sepAdjB_round (o : ROpts) (tol : ℚ) (its : List LItem) (xs : List ℚ)
    (h : sepAdjB o tol (its.zip xs) = true) :
    sepAdjB o (1 + tol) (its.zip (xs.map (fun x => ((roundHalfEven x : Int) : ℚ)))) = true := by
  induction its generalizing xs with
  | nil => rfl
  | cons a its ih =>
    cases its with
    | nil => cases xs <;> rfl
    | cons b its =>
      match xs with
      | [] | [_] => rfl
      | x :: y :: xs =>
        obtain ⟨⟨ht, hg⟩, h'⟩ := sepAdjB_cons_cons.1 h
        have := round_diff x y
        exact sepAdjB_cons_cons.2 ⟨⟨ht, by linarith only [hg, this]⟩, ih (y :: xs) h'⟩

theorem sep_unrounded' (o : ROpts) (its : List LItem)
    (hs : its.Pairwise (fun a b => a.target ≤ b.target)) :
    sepAdjB o Layout.eps (its.zip (solveSorted o its)) = true :=
  sepAdjB_of_SepBy o _ its _ hs (solveSorted_SepBy o its)

theorem sep_rounded' (o : ROpts) (its : List LItem)
    (hs : its.Pairwise (fun a b => a.target ≤ b.target)) :
    sepAdjB o (1 + Layout.eps)
      (its.zip ((solveSorted o its).map (fun x => ((roundHalfEven x : Int) : ℚ)))) = true :=
  sepAdjB_round _ _ _ _ (sep_unrounded' o its hs)

theorem removeOverlap_order_perm (o : ROpts) (items : List LItem) :
    (removeOverlap o items).order.Perm (List.range items.length) := by
  unfold removeOverlap
  simp only
  have hp := (sort_perm' items.zipIdx).map (·.2)
  rw [List.zipIdx_map_snd, ← List.range_eq_range'] at hp
  exact hp

theorem removeOverlap_pos_length (o : ROpts) (items : List LItem) :
    (removeOverlap o items).pos.length = items.length := by
  have hl : ((sortItems items.zipIdx).map (·.1)).length = items.length := by
    rw [List.length_map, (sort_perm' items.zipIdx).length_eq, List.length_zipIdx]
  unfold removeOverlap
  simp only [List.length_map]
  split
  · next h =>
    rw [List.isEmpty_iff] at h
    rw [h] at hl
    simpa using hl
  · next h =>
    rw [solveSorted_length' _ _ (by simpa using h), hl]

theorem removeOverlap_sepAdj (o : ROpts) (items : List LItem) :
    sepAdjB o (1 + Layout.eps) (((sortItems items.zipIdx).map (·.1)).zip
      ((removeOverlap o items).pos.map (fun (p : Int) => (p : ℚ)))) = true := by
  have hs : ((sortItems items.zipIdx).map (·.1)).Pairwise (fun a b => a.target ≤ b.target) := by
    rw [List.pairwise_map]; exact sort_sorted' _
  simp only [removeOverlap]
  split
  · rename_i hemp
    rw [List.isEmpty_iff] at hemp
    rw [hemp]; simp [sepAdjB]
  · simp only [List.map_map]
    exact sep_rounded' o _ hs

theorem spacing_triangle (o : ROpts) (a b c : LItem) (hw : 0 ≤ c.width) (hns : 0 ≤ o.nodeSpacing)
    (hls : 0 ≤ o.lineSpacing)
    (hF2 : c.stub = false → o.lineSpacing ≤ 2 * o.nodeSpacing + c.width) :
    spacing o a b ≤ c.width + spacing o a c + spacing o c b := by
  unfold spacing
  cases hc : c.stub
  · have h3 := hF2 hc
    cases a.stub <;> cases b.stub <;>
      simp only [Bool.and_true, Bool.and_false, Bool.and_self, if_true, if_false, Bool.false_eq_true] <;>
      linarith
  · cases a.stub <;> cases b.stub <;>
      simp only [Bool.and_true, Bool.and_false, Bool.and_self, if_true, if_false, Bool.false_eq_true] <;>
      linarith

theorem gap_triangle (o : ROpts) (a b c : LItem) (hw : 0 ≤ c.width) (hns : 0 ≤ o.nodeSpacing)
    (hls : 0 ≤ o.lineSpacing)
    (hF2 : c.stub = false → o.lineSpacing ≤ 2 * o.nodeSpacing + c.width) :
    gap o a b ≤ gap o a c + gap o c b := by
  have := spacing_triangle o a b c hw hns hls hF2
  unfold gap
  rw [halfDivisor_eq']
  linarith

theorem head_pairs (o : ROpts) (tol : ℚ) (htol : 0 ≤ tol) (hns : 0 ≤ o.nodeSpacing)
    (hls : 0 ≤ o.lineSpacing) (a : LItem × ℚ) (rest : List (LItem × ℚ))
    (hadj : sepAdjB o tol (a :: rest) = true)
    (hw : ∀ p ∈ rest, 0 ≤ p.1.width)
    (hF2 : ∀ p ∈ rest, p.1.stub = false → o.lineSpacing ≤ 2 * o.nodeSpacing + p.1.width) :
    ∀ b ∈ rest, a.1.target ≤ b.1.target ∧ gap o a.1 b.1 - tol * (rest.length : ℚ) ≤ b.2 - a.2 := by
  induction rest generalizing a with
  | nil => exact fun b hb => absurd hb List.not_mem_nil
  | cons c rest ih =>
    obtain ⟨⟨hac, hgap⟩, hadj'⟩ := sepAdjB_cons_cons.1 hadj
    obtain ⟨hwc, hw'⟩ := List.forall_mem_cons.1 hw
    obtain ⟨hFc, hF'⟩ := List.forall_mem_cons.1 hF2
    have hn : (0 : ℚ) ≤ tol * (rest.length : ℚ) := mul_nonneg htol (Nat.cast_nonneg _)
    rw [List.length_cons, Nat.cast_succ, mul_add, mul_one]
    intro b hb
    rcases List.mem_cons.mp hb with rfl | hb
    · exact ⟨hac, by linarith only [hgap, hn]⟩
    · obtain ⟨hcb, hgcb⟩ := ih c hadj' hw' hF' b hb
      have htri := gap_triangle o a.1 b.1 c.1 hwc hns hls hFc
      exact ⟨hac.trans hcb, by linarith only [hgap, hgcb, htri]⟩

theorem any_pair' (o : ROpts) (tol : ℚ) (htol : 0 ≤ tol) (hns : 0 ≤ o.nodeSpacing)
    (hls : 0 ≤ o.lineSpacing) (L : List (LItem × ℚ)) (T : ℚ) (hT : tol * (L.length : ℚ) ≤ T)
    (hadj : sepAdjB o tol L = true)
    (hw : ∀ p ∈ L, 0 ≤ p.1.width)
    (hF2 : ∀ p ∈ L, p.1.stub = false → o.lineSpacing ≤ 2 * o.nodeSpacing + p.1.width) :
    sepAllB o T L = true := by
  induction L with
  | nil => rfl
  | cons a rest ih =>
    rw [List.length_cons, Nat.cast_succ, mul_add, mul_one] at hT
    have hw' := (List.forall_mem_cons.1 hw).2
    have hF2' := (List.forall_mem_cons.1 hF2).2
    simp only [sepAllB, Bool.and_eq_true, List.all_eq_true]
    refine ⟨fun b hb => ?_, ih (by linarith only [hT, htol]) (sepAdjB_tail hadj) hw' hF2'⟩
    obtain ⟨h1, h2⟩ := head_pairs o tol htol hns hls a rest hadj hw' hF2' b hb
    simp only [pairOKB, Bool.and_eq_true, decide_eq_true_eq]
    exact ⟨h1, by linarith only [h2, hT, htol]⟩

theorem wdist_nonneg {vars : List Item} (hw : ∀ v ∈ vars, 0 ≤ v.w) (xs zs : List ℚ) :
    0 ≤ wdist vars xs zs :=
  Chain.wdist_nonneg hw xs zs

/-- a placement `zs` of the items that keeps all gaps with the walls standing exactly at the bounds costs the walls nothing, so the
solver's placement of the whole chain costs at most `K = Σ (zᵢ − tᵢ)²` -/
theorem solve_cost_le_fit (o : ROpts) (its : List LItem) (h : its ≠ []) (zs : List ℚ) (hz : zs.length = its.length)
    (hfeas : SepBy 0 (chainGaps o its) ((leftWall o).map (·.t) ++ zs ++ (rightWall o).map (·.t))) :
    cost (chainVars o its) (solve Layout.eps (chainVars o its) (chainGaps o its)) ≤ cost (its.map toVar) zs := by
  have hpos := chainVars_pos o its
  have hopt := solve_optimal' Layout.eps eps_nonneg' _ _ (chain_lengths o h) hpos _
    (by rw [chainVars_length]; simp only [List.length_append, List.length_map, hz]) hfeas
  have hwd := Chain.wdist_nonneg (fun v hv => (hpos v hv).le) (solve Layout.eps (chainVars o its) (chainGaps o its))
    ((leftWall o).map (·.t) ++ zs ++ (rightWall o).map (·.t))
  have hc : cost (chainVars o its) ((leftWall o).map (·.t) ++ zs ++ (rightWall o).map (·.t))
      = cost (its.map toVar) zs := by
    unfold chainVars
    rw [cost_append _ _ _ _ (by simp [hz]), cost_append _ _ _ _ (by simp), cost_self, cost_self]
    ring
  linarith only [hopt, hwd, hc]

theorem toVar_nonneg (its : List LItem) : ∀ v ∈ its.map toVar, 0 ≤ v.w := by
  intro v hv
  obtain ⟨i, _, rfl⟩ := List.mem_map.1 hv
  exact zero_le_one

theorem exists_ends (l : List ℚ) (n : ℕ) (h : l.length = n + 2) :
    ∃ x0 mid xl, l = x0 :: (mid ++ [xl]) ∧ mid.length = n := by
  cases l with
  | nil => simp at h
  | cons x0 t =>
    have ht : t ≠ [] := by intro h'; subst h'; simp at h
    refine ⟨x0, t.dropLast, t.getLast ht, ?_, ?_⟩
    · rw [List.dropLast_append_getLast]
    · simp only [List.length_cons] at h
      rw [List.length_dropLast]; omega

theorem walls_near_bounds' (its : List LItem) (lo hi : ℚ) (ns ls : ℚ) (h : its ≠ [])
    (zs : List ℚ) (hz : zs.length = its.length)
    (hfeas : SepBy 0 (chainGaps ⟨some lo, some hi, ns, ls⟩ its) (lo :: zs ++ [hi])) :
    let o : ROpts := ⟨some lo, some hi, ns, ls⟩
    let all := solve Layout.eps (chainVars o its) (chainGaps o its)
    Gen.wallWeight * (all.headD 0 - lo) * (all.headD 0 - lo)
      + Gen.wallWeight * (all.getLastD 0 - hi) * (all.getLastD 0 - hi)
      ≤ cost (its.map toVar) zs := by
  intro o all
  have hle := solve_cost_le_fit o its h zs hz hfeas
  have hal : all.length = its.length + 2 :=
    (solve_length' Layout.eps _ _ (chain_lengths o h)).trans
      ((chainVars_length o its).trans (Nat.add_comm 1 its.length ▸ rfl))
  obtain ⟨x0, mid, xl, hall, hmid⟩ := exists_ends _ _ hal
  have hvars : chainVars o its
      = ({ w := Gen.wallWeight, t := lo } : Item) ::
          (its.map toVar ++ [({ w := Gen.wallWeight, t := hi } : Item)]) := rfl
  have hmidc := cost_nonneg (toVar_nonneg its) mid
  change cost (chainVars o its) all ≤ _ at hle
  rw [hvars, hall, cost_cons, cost_append _ _ _ _ (by rw [List.length_map]; omega), cost_cons] at hle
  have h0 : cost [] ([] : List ℚ) = 0 := rfl
  rw [hall, List.headD_cons, List.getLastD_cons, List.getLastD_concat]
  linarith only [hle, hmidc, h0]

end Labella.Layout
