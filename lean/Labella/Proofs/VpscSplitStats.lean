import Labella.Proofs.VpscBlockList
/-! # `Block.split` keeps the position statistics exact; the block list after `split` + `insert` + `insert` + `remove`

`blockSplit` is a sequence of elementary steps (`SStep`): flag changes, the creation of an empty block object, and
"place variable `w` in the NEW block `b` with a new offset".  If, at the end, the `vars` lists of the new blocks are
duplicate-free and pairwise disjoint (which `SplitDesc` says), no variable was placed twice, hence the statistics accumulated
by `addVariable` are those of the final offsets. -/
namespace Labella.Vpsc

def emptyB (σ : Rat) : B := { vars := [], scale := σ, AB := 0, AD := 0, A2 := 0, posn := 0, ind := 0 }

inductive SStep (n0 : Nat) : St → St → Prop
  | quiet (s s' : St) (h : Quiet s s') : SStep n0 s s'
  | push (s : St) (σ : Rat) (hσ : σ ≠ 0) (h : n0 ≤ s.bs.size) : SStep n0 s (pushB s (emptyB σ))
  | place (s : St) (w b : Nat) (o : Rat) (hb : n0 ≤ b) (hlt : b < s.bs.size) :
      SStep n0 s (addVariable (setV s w { getV s w with offset := o }) b w)

def Steps (n0 : Nat) : St → St → Prop := Relation.ReflTransGen (SStep n0)

theorem Steps.refl (n0 : Nat) (s : St) : Steps n0 s s := Relation.ReflTransGen.refl
theorem Steps.trans {n0 : Nat} {a b c : St} (h1 : Steps n0 a b) (h2 : Steps n0 b c) : Steps n0 a c :=
  Relation.ReflTransGen.trans h1 h2
theorem SStep.steps {n0 : Nat} {a b : St} (h : SStep n0 a b) : Steps n0 a b := Relation.ReflTransGen.single h

/-- what every step preserves -/
structure SFacts (n0 : Nat) (s s' : St) : Prop where
  list_eq : s'.list = s.list
  bsize : s.bs.size ≤ s'.bs.size
  scale : ∀ i, (getV s' i).s = (getV s i).s

theorem place_getV (s : St) (w b : Nat) (o : Rat) (i : Nat) :
    ∃ o' b', getV (addVariable (setV s w { getV s w with offset := o }) b w) i = { getV s i with offset := o', block := b' } := by
  rw [getV_addVariable]
  by_cases h1 : i = w ∧ w < (setV s w { getV s w with offset := o }).vs.size
  · rw [if_pos h1, getV_setV, h1.1]
    by_cases h2 : w = w ∧ w < s.vs.size
    · rw [if_pos h2]; exact ⟨o, b, rfl⟩
    · rw [if_neg h2]; exact ⟨_, b, rfl⟩
  · rw [if_neg h1, getV_setV]
    by_cases h2 : i = w ∧ w < s.vs.size
    · rw [if_pos h2, h2.1]; exact ⟨o, _, rfl⟩
    · rw [if_neg h2]; exact ⟨_, _, rfl⟩

theorem SStep.facts {n0 : Nat} {s s' : St} (h : SStep n0 s s') : SFacts n0 s s' := by
  cases h with
  | quiet _ hq => exact ⟨hq.list_eq, Nat.le_of_eq (by rw [hq.bs_eq]), fun i => by rw [hq.getV]⟩
  | push σ hσ h =>
    exact ⟨rfl, Nat.le_of_lt (Nat.lt_of_lt_of_eq (Nat.lt_succ_self _) (pushB_bs_size s _).symm), fun _ => rfl⟩
  | place w b o hb hlt =>
    refine ⟨addVariable_list _ b w, Nat.le_of_eq (addVariable_bs_size (setV s w _) b w).symm, fun i => ?_⟩
    obtain ⟨o', b', e⟩ := place_getV s w b o i
    rw [e]

theorem Steps.facts {n0 : Nat} {s s' : St} (h : Steps n0 s s') : SFacts n0 s s' := by
  induction h with
  | refl => exact ⟨rfl, Nat.le_refl _, fun _ => rfl⟩
  | tail _ hst ih =>
    have f := hst.facts
    exact ⟨f.list_eq.trans ih.list_eq, Nat.le_trans ih.bsize f.bsize, fun i => (f.scale i).trans (ih.scale i)⟩

/-- the `vars` lists of the new blocks are duplicate-free and pairwise disjoint -/
def NewDisj (n0 : Nat) (s : St) : Prop :=
  ∀ b, n0 ≤ b → b < s.bs.size → (getB s b).vars.Nodup ∧
    ∀ b', n0 ≤ b' → b' < s.bs.size → b ≠ b' → ∀ i ∈ (getB s b).vars, i ∉ (getB s b').vars

def NewStats (n0 : Nat) (s : St) : Prop := ∀ b, n0 ≤ b → b < s.bs.size → StatsB s b

theorem emptyB_statsOK (s : St) (σ : Rat) (hσ : σ ≠ 0) : StatsOK s (emptyB σ) :=
  ⟨hσ, rfl, rfl, rfl, by simp [emptyB, getPosn]⟩

theorem addVariable_vars (s : St) (b w k : Nat) (hb : b < s.bs.size) :
    (getB (addVariable s b w) k).vars = if k = b then (getB s b).vars ++ [w] else (getB s k).vars := by
  by_cases hk : k = b
  · subst hk
    rw [if_pos rfl, getB_addVariable_vars _ _ _ hb]
  · rw [if_neg hk, getB_addVariable_ne _ _ _ _ hk]

theorem newDisj_anti {n0 : Nat} {s s' : St} (hb : s.bs.size ≤ s'.bs.size)
    (hsub : ∀ k, k < s.bs.size → (getB s k).vars.Sublist (getB s' k).vars) (hd : NewDisj n0 s') : NewDisj n0 s := by
  intro b hb1 hlt
  obtain ⟨h1, h2⟩ := hd b hb1 (Nat.lt_of_lt_of_le hlt hb)
  exact ⟨h1.sublist (hsub b hlt), fun b' hb' hlt' hne i hi hi' =>
    h2 b' hb' (Nat.lt_of_lt_of_le hlt' hb) hne i ((hsub b hlt).subset hi) ((hsub b' hlt').subset hi')⟩

theorem not_mem_of_newDisj {n0 : Nat} {s s' : St} {w b : Nat} (hb : n0 ≤ b) (hlt : b < s'.bs.size)
    (hvars : ∀ k, (getB s' k).vars = if k = b then (getB s b).vars ++ [w] else (getB s k).vars) (hd : NewDisj n0 s')
    (k : Nat) (hk : n0 ≤ k) (hklt : k < s'.bs.size) : w ∉ (getB s k).vars := by
  intro hmem
  by_cases hkb : k = b
  · have := (hd b hb hlt).1
    rw [hvars, if_pos rfl] at this
    exact (List.nodup_append.1 this).2.2 w (hkb ▸ hmem) w (List.mem_singleton_self w) rfl
  · have := (hd k hk hklt).2 b hb hlt hkb w
    rw [hvars, if_neg hkb, hvars, if_pos rfl] at this
    exact this hmem (List.mem_append_right _ (List.mem_singleton_self w))

/-- one step backwards: if the lists are duplicate-free and disjoint afterwards they were so before, and then the step kept the
statistics exact (a placed variable was not listed in any new block) -/
theorem SStep.back {n0 : Nat} {s s' : St} (h : SStep n0 s s') (hd : NewDisj n0 s') :
    NewDisj n0 s ∧ (NewStats n0 s → NewStats n0 s') := by
  cases h with
  | quiet _ hq =>
    refine ⟨newDisj_anti (Nat.le_of_eq (by rw [hq.bs_eq])) (fun k _ => by rw [hq.getB]) hd, fun hs b hb hlt => ?_⟩
    rw [hq.bs_eq] at hlt
    exact StatsB.congr (by rw [hq.getB]; exact BSame.rfl' _) (fun i _ => by rw [hq.getV]; exact VSame.rfl' _) (hs b hb hlt)
  | push σ hσ h =>
    have hB : ∀ k, k < s.bs.size → getB (pushB s (emptyB σ)) k = getB s k := fun k hk => by
      rw [getB_pushB, if_neg (Nat.ne_of_lt hk)]
    refine ⟨newDisj_anti (Nat.le_of_lt (Nat.lt_of_lt_of_eq (Nat.lt_succ_self _) (pushB_bs_size s _).symm))
      (fun k hk => by rw [hB k hk]) hd, fun hs b hb hlt => ?_⟩
    rw [pushB_bs_size] at hlt
    show StatsOK _ (getB _ _)
    rcases Nat.lt_succ_iff_lt_or_eq.1 hlt with hlt | rfl
    · rw [hB b hlt]; exact hs b hb hlt
    · rw [getB_pushB, if_pos rfl]; exact emptyB_statsOK _ σ hσ
  | place w b o hb hlt =>
    have hsz : (addVariable (setV s w { getV s w with offset := o }) b w).bs.size = s.bs.size :=
      addVariable_bs_size (setV s w _) b w
    have hvars : ∀ k, (getB (addVariable (setV s w { getV s w with offset := o }) b w) k).vars =
        if k = b then (getB s b).vars ++ [w] else (getB s k).vars := fun k => addVariable_vars _ _ _ _ hlt
    have hnw := not_mem_of_newDisj hb (by rw [hsz]; exact hlt) hvars hd
    rw [hsz] at hnw
    refine ⟨newDisj_anti (Nat.le_of_eq hsz.symm) (fun k _ => ?_) hd, fun hs k hk hklt => ?_⟩
    · rw [hvars]
      split
      · next hkb => rw [hkb]; exact List.sublist_append_left _ _
      · exact List.Sublist.refl _
    · rw [hsz] at hklt
      have hw := hnw k hk hklt
      have h0 := setV_statsB s k w { getV s w with offset := o } hw (hs k hk hklt)
      by_cases hkb : k = b
      · rw [hkb] at hw h0 ⊢
        exact addVariable_statsB _ _ _ hlt hw h0
      · exact addVariable_statsB_ne _ _ _ _ hkb hw h0

theorem Steps.back {n0 : Nat} {s s' : St} (h : Steps n0 s s') (hs : NewStats n0 s) (hd : NewDisj n0 s') :
    NewStats n0 s' := by
  induction h with
  | refl => exact hs
  | tail _ hst ih =>
    obtain ⟨h1, h2⟩ := hst.back hd
    exact h2 (ih h1)


/-! ## `blockSplit` as a sequence of steps -/

theorem visit_step (n0 : Nat) (s : St) (b v c w : Nat) (hb : n0 ≤ b) (hlt : b < s.bs.size) :
    SStep n0 s (visit s b v c w) := by
  unfold visit
  exact SStep.place s w b _ hb hlt

theorem populate_steps (n0 b : Nat) (hb : n0 ≤ b) (fuel : Nat) : ∀ (s : St) (v : Nat) (prev : Option Nat),
    b < s.bs.size → Steps n0 s (populateSplitBlock fuel s b v prev) := by
  induction fuel with
  | zero => intro s v prev _; exact (SStep.quiet s _ (quiet_setErr s true)).steps
  | succ fuel ih =>
    intro s v prev hlt
    rw [populate_succ]
    refine FrameAux.foldl_inv (fun acc => Steps n0 s acc) _ _ _ (Steps.refl _ _) ?_
    intro acc x _ hacc
    unfold pstep
    split
    · have hlt' : b < acc.bs.size := Nat.lt_of_lt_of_le hlt hacc.facts.bsize
      exact (hacc.trans (visit_step n0 acc b v x.1 x.2 hb hlt').steps).trans
        (ih _ _ _ (by rw [visit_bs_size]; exact hlt'))
    · exact hacc

theorem newBlock_steps (n0 : Nat) (s : St) (i : Nat) (hn : n0 ≤ s.bs.size) (hσ : (getV s i).s ≠ 0) :
    Steps n0 s (newBlock s i).1 := by
  have e : (newBlock s i).1 = addVariable (setV (pushB s (emptyB (getV s i).s)) i
      { getV (pushB s (emptyB (getV s i).s)) i with offset := 0 }) s.bs.size i := by
    rw [newBlock_fst]
    have : (getV (setV s i { getV s i with offset := 0 }) i).s = (getV s i).s := by
      rw [getV_setV]; split <;> rfl
    rw [this]
    rfl
  rw [e]
  exact (SStep.push s _ hσ hn).steps.trans (SStep.place _ i s.bs.size 0 hn (by simp)).steps

theorem createSplitBlock_steps (n0 : Nat) (s : St) (start : Nat) (hn : n0 ≤ s.bs.size) (hσ : (getV s start).s ≠ 0) :
    Steps n0 s (createSplitBlock s start).1 := by
  rw [createSplitBlock_fst]
  refine (newBlock_steps n0 s start hn hσ).trans (populate_steps n0 _ hn _ _ _ _ ?_)
  simp [newBlock_fst, addVariable]

theorem blockSplit_steps (st : St) (ci : Nat) (hl : (getV st (getC st ci).l).s ≠ 0) (hr : (getV st (getC st ci).r).s ≠ 0) :
    Steps st.bs.size st (blockSplit st ci).1 := by
  rw [blockSplit_fst]
  have e1 : (getC (setC st ci { getC st ci with active := false }) ci).l = (getC st ci).l := by
    rw [getC_setC]; split <;> rfl
  have e2 : (getC (setC st ci { getC st ci with active := false }) ci).r = (getC st ci).r := by
    rw [getC_setC]; split <;> rfl
  rw [e1, e2]
  have s0 := (SStep.quiet (n0 := st.bs.size) st _ (quiet_setC st ci { getC st ci with active := false })).steps
  have s1 := createSplitBlock_steps st.bs.size (setC st ci { getC st ci with active := false }) (getC st ci).l
    (Nat.le_refl _) hl
  have s01 := s0.trans s1
  have s2 := createSplitBlock_steps st.bs.size _ (getC st ci).r s01.facts.bsize
    (by rw [s01.facts.scale]; exact hr)
  exact s01.trans s2

theorem blockSplit_list (st : St) (ci : Nat) (hinv : Inv st) (hci : ci < st.cs.size) :
    (blockSplit st ci).1.list = st.list := by
  obtain ⟨hl, hr⟩ := hinv.wf.lr ci hci
  exact (blockSplit_steps st ci (hinv.wf.scale_ne _ hl) (hinv.wf.scale_ne _ hr)).facts.list_eq

/-! ## the state after `blockSplit` -/

theorem split_tri {st : St} {ci : Nat} {sp : St} (D : SplitDesc st ci sp) (hinv : Inv st) (hci : ci < st.cs.size)
    (ha : (getC st ci).active = true) (u : Nat) (hu : u < st.vs.size) :
    ((getV sp u).block = st.bs.size ∧ Conn st (some ci) (getC st ci).l u) ∨
    ((getV sp u).block = st.bs.size + 1 ∧ Conn st (some ci) (getC st ci).r u) ∨
    ((getV sp u).block = (getV st u).block ∧ (getV sp u).offset = (getV st u).offset ∧
      (getV st u).block < st.bs.size ∧ (getV st u).block ≠ (getV st (getC st ci).l).block) := by
  rcases D.tri hinv hci ha u with ⟨h1, _, e⟩ | ⟨h2, _, e⟩ | ⟨h1, h2, e, eo, hb⟩
  · exact Or.inl ⟨e, h1⟩
  · exact Or.inr (Or.inl ⟨e, h2⟩)
  · refine Or.inr (Or.inr ⟨e, eo, hb, fun hb' => ?_⟩)
    rcases conn_cover ((hinv.comps u _ hu (hinv.wf.lr ci hci).1).1 hb').symmS with h | h
    · exact h1 h
    · exact h2 h

theorem newDisj_two {n0 : Nat} {s : St} (hsz : s.bs.size = n0 + 2) (h0 : (getB s n0).vars.Nodup)
    (h1 : (getB s (n0 + 1)).vars.Nodup) (hd : ∀ i ∈ (getB s n0).vars, i ∉ (getB s (n0 + 1)).vars) : NewDisj n0 s := by
  have two : ∀ b, n0 ≤ b → b < s.bs.size → b = n0 ∨ b = n0 + 1 := fun b h1 h2 => by
    rw [hsz] at h2
    rcases Nat.eq_or_lt_of_le h1 with e | h
    · exact Or.inl e.symm
    · exact Or.inr (Nat.le_antisymm (Nat.le_of_lt_succ h2) h)
  intro b hb hlt
  rcases two b hb hlt with rfl | rfl
  · refine ⟨h0, fun b' hb' hlt' hne i hi hi' => ?_⟩
    rcases two b' hb' hlt' with rfl | rfl
    · exact hne rfl
    · exact hd i hi hi'
  · refine ⟨h1, fun b' hb' hlt' hne i hi hi' => ?_⟩
    rcases two b' hb' hlt' with rfl | rfl
    · exact hd i hi' hi
    · exact hne rfl

theorem blockSplit_stats (st : St) (ci : Nat) (hinv : Inv st) (hadj : AdjNodup st) (hci : ci < st.cs.size)
    (ha : (getC st ci).active = true) (herr : (blockSplit st ci).1.err = false) (hs : StatsInv st) :
    (blockSplit st ci).1.list = st.list ∧ StatsInv (blockSplit st ci).1 := by
  have D := blockSplit_desc st ci hinv hci ha herr
  obtain ⟨hl, hr⟩ := hinv.wf.lr ci hci
  have hS := blockSplit_steps st ci (hinv.wf.scale_ne _ hl) (hinv.wf.scale_ne _ hr)
  refine ⟨blockSplit_list st ci hinv hci, ?_⟩
  generalize (blockSplit st ci).1 = sp at D hS ⊢
  have hND : NewDisj st.bs.size sp := newDisj_two D.bsize (D.ndL hadj) (D.ndR hadj) fun i hi hi' =>
    hinv.forest ci hci ha (((D.varsL i).1 hi).trans ((D.varsR i).1 hi').symmS)
  have hNS : NewStats st.bs.size sp := hS.back (fun b h1 h2 => absurd h2 (Nat.not_lt.2 h1)) hND
  intro v hv
  rw [D.vsize] at hv
  rcases split_tri D hinv hci ha v hv with ⟨e, _⟩ | ⟨e, _⟩ | ⟨e, _, e2, e3⟩
  · rw [e]; exact hNS _ (Nat.le_refl _) (by rw [D.bsize]; exact Nat.lt_succ_of_lt (Nat.lt_succ_self _))
  · rw [e]; exact hNS _ (Nat.le_succ _) (by rw [D.bsize]; exact Nat.lt_succ_self _)
  · rw [e]
    refine StatsB.congr (st := st) (b := (getV st v).block) ?_ (fun i hi => ?_) (hs v hv)
    · rw [D.bother _ (Nat.ne_of_lt e2) (Nat.ne_of_lt (Nat.lt_succ_of_lt e2))]; exact BSame.rfl' _
    · obtain ⟨hi1, hi2⟩ := (hinv.members v hv i).1 hi
      obtain ⟨a1, a2, a3, a4, _⟩ := D.vstat i
      refine ⟨a2, a3, ?_, a1⟩
      have hcv := (hinv.comps i v hi1 hv).1 hi2
      have hadjlr := Adj.of_active hci ha
      rcases split_tri D hinv hci ha i hi1 with ⟨_, c⟩ | ⟨_, c⟩ | ⟨_, c, _⟩
      · exact absurd ((hinv.comps _ v hl hv).2 (c.to_noneS.trans hcv)).symm e3
      · exact absurd ((hinv.comps _ v hl hv).2 (hadjlr.connS.trans (c.to_noneS.trans hcv))).symm e3
      · exact c


/-! ## the ids of the two new blocks -/

theorem createSplitBlock_bs_size (s : St) (start : Nat) : (createSplitBlock s start).1.bs.size = s.bs.size + 1 := by
  rw [createSplitBlock_fst, (populate_frame _ _ _ _ _).2.1]
  simp [newBlock_fst, addVariable]

theorem blockSplit_ids (st : St) (ci : Nat) : (blockSplit st ci).2.1 = st.bs.size ∧ (blockSplit st ci).2.2 = st.bs.size + 1 := by
  unfold blockSplit
  simp only
  rw [createSplitBlock_snd, createSplitBlock_snd, createSplitBlock_bs_size]
  exact ⟨rfl, rfl⟩

theorem replace_indOK (sp : St) (n0 old : Nat) (hI : IndOK sp) (hlt : ∀ x ∈ sp.list.toList, x < n0)
    (hbs : n0 + 1 < sp.bs.size) (hold : old ∈ sp.list.toList) :
    IndOK (removeBlock (insertBlock (insertBlock sp n0) (n0 + 1)) old) ∧
    ∀ x, x ∈ (removeBlock (insertBlock (insertBlock sp n0) (n0 + 1)) old).list.toList ↔
      ((x ∈ sp.list.toList ∨ x = n0 ∨ x = n0 + 1) ∧ x ≠ old) := by
  have hb1 := (insertBlock_coreEq sp n0).bsize
  have hb2 := (insertBlock_coreEq (insertBlock sp n0) (n0 + 1)).bsize
  obtain ⟨I1, m1⟩ := insertBlock_indOK sp n0 (Nat.lt_of_succ_lt hbs) (fun h => Nat.lt_irrefl _ (hlt _ h)) hI
  obtain ⟨I2, m2⟩ := insertBlock_indOK (insertBlock sp n0) (n0 + 1) (Nat.lt_of_lt_of_le hbs hb1)
    (fun h => ((m1 _).1 h).elim (fun h => Nat.lt_irrefl _ (Nat.lt_of_succ_lt (hlt _ h))) (Nat.succ_ne_self n0)) I1
  obtain ⟨I3, m3⟩ := removeBlock_indOK _ old I2 ((m2 _).2 (Or.inl ((m1 _).2 (Or.inl hold)))) (fun x hx => by
    refine Nat.lt_of_lt_of_le ?_ (Nat.le_trans hb1 hb2)
    rcases (m2 x).1 hx with h | rfl
    · rcases (m1 x).1 h with h | rfl
      · exact Nat.lt_trans (hlt x h) (Nat.lt_of_succ_lt hbs)
      · exact Nat.lt_of_succ_lt hbs
    · exact hbs)
  refine ⟨I3, fun x => ?_⟩
  rw [m3, m2, m1, or_assoc]

theorem split_listInv (st : St) (ci : Nat) (hinv : Inv st) (hci : ci < st.cs.size)
    (ha : (getC st ci).active = true) (herr : (blockSplit st ci).1.err = false) (hL : ListInv st) :
    ListInv (removeBlock (insertBlock (insertBlock (blockSplit st ci).1 (blockSplit st ci).2.1) (blockSplit st ci).2.2)
      (getV st (getC st ci).l).block) := by
  have D := blockSplit_desc st ci hinv hci ha herr
  obtain ⟨hl, hr⟩ := hinv.wf.lr ci hci
  have hlist := blockSplit_list st ci hinv hci
  rw [(blockSplit_ids st ci).1, (blockSplit_ids st ci).2]
  have hE := ((insertBlock_statEq (blockSplit st ci).1 st.bs.size).trans (insertBlock_statEq _ (st.bs.size + 1))).trans
    (removeBlock_statEq _ (getV st (getC st ci).l).block)
  generalize (blockSplit st ci).1 = sp at D hlist hE ⊢
  have hlt0 : ∀ x ∈ st.list.toList, x < st.bs.size := by
    intro x hx
    obtain ⟨v, hv, e⟩ := hL.inuse x hx
    rw [← e]; exact hinv.wf.block_lt v hv
  have hold := hL.covers _ hl
  have hI0 : IndOK sp := by
    intro k hk
    rw [hlist] at hk ⊢
    have hx := hlt0 _ ((FrameAux.natArr_mem_toList_iff _ _).2 ⟨k, hk, rfl⟩)
    rw [D.bother _ (Nat.ne_of_lt hx) (Nat.ne_of_lt (Nat.lt_succ_of_lt hx))]
    exact hL.indOK k hk
  obtain ⟨I, hmem⟩ := replace_indOK sp st.bs.size (getV st (getC st ci).l).block hI0 (hlist ▸ hlt0)
    (by rw [D.bsize]; exact Nat.lt_succ_self _) (hlist ▸ hold)
  rw [hlist] at hmem
  have hvs := congrArg Array.size hE.vs_eq
  rw [D.vsize] at hvs
  have hadjlr := Adj.of_active hci ha
  refine ListInv.mk' I (fun v hv => ?_) (fun x hx => ?_)
  · rw [hvs] at hv
    rw [hE.getV, hmem]
    rcases split_tri D hinv hci ha v hv with ⟨e, _⟩ | ⟨e, _⟩ | ⟨e, _, _, e3⟩
    · rw [e]; exact ⟨Or.inr (Or.inl rfl), Nat.ne_of_gt (hlt0 _ hold)⟩
    · rw [e]; exact ⟨Or.inr (Or.inr rfl), Nat.ne_of_gt (Nat.lt_succ_of_lt (hlt0 _ hold))⟩
    · rw [e]; exact ⟨Or.inl (hL.covers v hv), e3⟩
  · obtain ⟨hx1, hne⟩ := (hmem x).1 hx
    rcases hx1 with h | h | h
    · obtain ⟨v, hv, e⟩ := hL.inuse x h
      refine ⟨v, by rw [hvs]; exact hv, ?_⟩
      rw [hE.getV]
      rcases split_tri D hinv hci ha v hv with ⟨_, c⟩ | ⟨_, c⟩ | ⟨e1, _⟩
      · exact absurd (e.symm.trans ((hinv.comps _ v hl hv).2 c.to_noneS).symm) hne
      · exact absurd (e.symm.trans ((hinv.comps _ v hl hv).2 (hadjlr.connS.trans c.to_noneS)).symm) hne
      · exact e1.trans e
    · refine ⟨_, by rw [hvs]; exact hl, ?_⟩
      rw [hE.getV, h]; exact (D.inL _ (Conn.reflS _ _ _)).2.1
    · refine ⟨_, by rw [hvs]; exact hr, ?_⟩
      rw [hE.getV, h]; exact (D.inR _ (Conn.reflS _ _ _)).2.1

theorem split_statsInv (st : St) (ci : Nat) (hinv : Inv st) (hadj : AdjNodup st) (hci : ci < st.cs.size)
    (ha : (getC st ci).active = true) (herr : (blockSplit st ci).1.err = false) (hs : StatsInv st) (old : Nat) :
    StatsInv (removeBlock (insertBlock (insertBlock (blockSplit st ci).1 (blockSplit st ci).2.1) (blockSplit st ci).2.2) old) :=
  StatsInv.of_statEq (((insertBlock_statEq _ _).trans (insertBlock_statEq _ _)).trans (removeBlock_statEq _ _))
    (blockSplit_stats st ci hinv hadj hci ha herr hs).2

end Labella.Vpsc
