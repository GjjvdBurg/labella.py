import Labella.Model.Pipeline
import Labella.Proofs.EndToEnd
import Labella.Proofs.Rounding
import Labella.Proofs.RenderLemmas
import Labella.Props.C01
import Mathlib.Algebra.Order.Field.Rat
import Mathlib.Tactic.Ring
import Mathlib.Tactic.Linarith
import Mathlib.Tactic.NormNum
/-! Helper lemmas for the end-to-end statements of C07 / C08 about `Pipeline.drawn`
(`Timeline.compute` + the emitters' box geometry, composed). -/
namespace Labella.Pipeline
open Labella Labella.Layout Labella.Render

section Lists

theorem ite_imp {c : Prop} [Decidable c] {P P' Q Q' : Prop} (f : P → Q) (g : P' → Q')
    (h : if c then P else P') : if c then Q else Q' := by
  split
  · next hc => exact f (by rwa [if_pos hc] at h)
  · next hc => exact g (by rwa [if_neg hc] at h)

theorem zipIdx_flatMap_fst {α β : Type} (l : List α) (g : α × Nat → List β) (g' : α → List β)
    (h : ∀ x, g x = g' x.1) : l.zipIdx.flatMap g = l.flatMap g' := by
  have e : g = g' ∘ Prod.fst := funext h
  have := List.flatMap_map Prod.fst g' (l := l.zipIdx)
  rw [List.zipIdx_map_fst] at this
  rw [e, this]
  rfl

theorem zipIdx_filterMap_fst {α β : Type} (l : List α) (g : α × Nat → Option β) (g' : α → Option β)
    (h : ∀ x, g x = g' x.1) : l.zipIdx.filterMap g = l.filterMap g' := by
  have e : g = g' ∘ Prod.fst := funext h
  have := List.filterMap_map (f := Prod.fst) (g := g') (l := l.zipIdx)
  rw [List.zipIdx_map_fst] at this
  rw [e, this]

theorem foldl_max_ge_init : ∀ (l : List ℚ) (init : ℚ), init ≤ l.foldl max init := by
  intro l
  induction l with
  | nil => intro init; exact le_refl _
  | cons x l ih => intro init; exact le_trans (le_max_left init x) (ih (max init x))

theorem le_foldl_max : ∀ (l : List ℚ) (init x : ℚ), x ∈ l → x ≤ l.foldl max init := by
  intro l
  induction l with
  | nil => intro init x h; cases h
  | cons y l ih =>
    intro init x h
    rcases List.mem_cons.1 h with rfl | h
    · exact le_trans (le_max_right init x) (foldl_max_ge_init l (max init x))
    · exact ih (max init y) x h

end Lists

theorem mem_drawn {dir : Dir} {layerGap : ℚ} {fo : FOpts} {items : List PItem} {a : Drawn}
    (h : a ∈ drawn dir layerGap fo items) :
    ∃ layer p, (compute fo (labelsOf dir items))[a.layer]? = some layer ∧ layer[a.idx]? = some p ∧
      p.ref.isStub = false ∧ a.id = p.ref.id ∧
      a.node = rnode dir items (compute fo (labelsOf dir items)) a.layer p.ref.id p.pos ∧
      a.box = modelBox (ropt dir layerGap items) a.node := by
  unfold drawn at h
  simp only [List.mem_flatMap, List.mem_filterMap] at h
  obtain ⟨⟨layer, k⟩, hlk, ⟨p, i⟩, hpi, h⟩ := h
  have h1 := List.mem_zipIdx_iff_getElem?.1 hlk
  have h2 := List.mem_zipIdx_iff_getElem?.1 hpi
  simp only at h1 h2 h
  split at h
  · cases h
  · rename_i hs
    simp only [Option.some.injEq] at h
    subst h
    exact ⟨layer, p, h1, h2, by simpa using hs, rfl, rfl, rfl⟩

theorem drawn_ids (dir : Dir) (layerGap : ℚ) (fo : FOpts) (items : List PItem) :
    (drawn dir layerGap fo items).map (·.id)
      = (compute fo (labelsOf dir items)).flatMap (fun layer => labs (layer.map (·.ref))) := by
  unfold drawn
  simp only [List.map_flatMap, List.map_filterMap]
  apply zipIdx_flatMap_fst
  intro lk
  unfold labs
  rw [List.filterMap_map]
  apply zipIdx_filterMap_fst
  intro pi
  simp only [Function.comp]
  cases hr : pi.1.ref with
  | label i => simp [Ref.isStub, Ref.id]
  | stub i lv => simp [Ref.isStub]

theorem placeLayers_labels_perm (o : FOpts) (labels : List Label) :
    ∀ (ls : List (List Ref)) (prev : Option (List Placed)),
      ((placeLayers o labels prev ls).flatMap (fun layer => labs (layer.map (·.ref)))).Perm (labelIds ls) := by
  intro ls
  induction ls with
  | nil => intro prev; exact List.Perm.refl _
  | cons l ls ih =>
    intro prev
    simp only [placeLayers, List.flatMap_cons, labelIds_cons]
    exact ((placeLayer_refs_perm o labels prev l).filterMap _).append (ih _)

theorem labelsOf_length (dir : Dir) (items : List PItem) : (labelsOf dir items).length = items.length := by
  simp [labelsOf]

theorem drawn_ids_perm (dir : Dir) (layerGap : ℚ) (fo : FOpts) (items : List PItem) :
    ((drawn dir layerGap fo items).map (·.id)).Perm (List.range items.length) := by
  rw [drawn_ids]
  have h2 := labelIds_distribute fo.toD (labelsOf dir items)
  rw [labelsOf_length] at h2
  exact (placeLayers_labels_perm fo _ _ none).trans h2

/-- item `i` of layer `k` of the computed layout is item `i` of the solver's sorted list; its reported position is the rounding
of the solver's position `i` -/
theorem layer_unrounded (fo : FOpts) (labels : List Label) (k : Nat) (layer : List Placed)
    (hL : (compute fo labels)[k]? = some layer) (i : Nat) (p : Placed) (hp : layer[i]? = some p) :
    ∃ x, ((C01.solvedItems fo labels k).zip (solveSorted fo.toR (C01.solvedItems fo labels k)))[i]?
        = some (layerItem fo labels (if k = 0 then none else (compute fo labels)[k - 1]?) p.ref, x) ∧
      (p.pos : ℚ) = ((roundHalfEven x : Int) : ℚ) := by
  have hv := C01.layerView_eq_zip fo labels k
  have hvi : (C01.layerView fo labels (compute fo labels) k)[i]?
      = some (layerItem fo labels (if k = 0 then none else (compute fo labels)[k - 1]?) p.ref, (p.pos : ℚ)) := by
    unfold C01.layerView
    rw [List.getD_eq_getElem?_getD, hL, Option.getD_some, List.getElem?_map, hp]
    rfl
  rw [hv, List.getElem?_zip_eq_some] at hvi
  obtain ⟨h1, h2⟩ := hvi
  rw [List.getElem?_map] at h2
  cases hx : (solveSorted fo.toR (C01.solvedItems fo labels k))[i]? with
  | none => rw [hx] at h2; simp at h2
  | some x =>
    rw [hx] at h2
    simp only [Option.map_some, Option.some.injEq] at h2
    refine ⟨x, ?_, h2.symm⟩
    rw [List.getElem?_zip_eq_some]
    exact ⟨h1, hx⟩

theorem default_along (dir : Dir) : along dir (default : PItem) = 0 := by
  cases dir <;> rfl

theorem widthOf_labelsOf (dir : Dir) (items : List PItem) (id : Nat) :
    widthOf (labelsOf dir items) id = along dir (items.getD id default) := by
  unfold widthOf labelsOf
  rw [List.getElem?_map, List.getD_eq_getElem?_getD]
  cases items[id]? with
  | none => simp [default_along]
  | some it => simp

theorem idealOf_labelsOf (dir : Dir) (items : List PItem) (id : Nat) :
    idealOf (labelsOf dir items) id = (items.getD id default).ideal := by
  unfold idealOf labelsOf
  rw [List.getElem?_map, List.getD_eq_getElem?_getD]
  cases items[id]? with
  | none => rfl
  | some it => simp

theorem along_nonneg (dir : Dir) (it : PItem) (h : 0 ≤ it.w ∧ 0 ≤ it.h) : 0 ≤ along dir it := by
  unfold along; split
  · exact h.1
  · exact h.2

theorem labelsOf_width_nonneg (dir : Dir) (items : List PItem) (hsz : ∀ it ∈ items, 0 ≤ it.w ∧ 0 ≤ it.h) :
    ∀ l ∈ labelsOf dir items, 0 ≤ l.width := by
  intro l hl
  unfold labelsOf at hl
  obtain ⟨it, hit, rfl⟩ := List.mem_map.1 hl
  exact along_nonneg dir it (hsz it hit)

theorem drawn_sep {dir : Dir} {layerGap : ℚ} {fo : FOpts} {items : List PItem}
    (hns : 0 ≤ fo.nodeSpacing) (hls : 0 ≤ fo.lineSpacing) (hsw : 0 ≤ fo.stubWidth)
    (hsz : ∀ it ∈ items, 0 ≤ it.w ∧ 0 ≤ it.h)
    {a b : Drawn} (ha : a ∈ drawn dir layerGap fo items) (hb : b ∈ drawn dir layerGap fo items)
    (hl : a.layer = b.layer) (hi : a.idx < b.idx) :
    (a.node.width + b.node.width) / 2 + fo.nodeSpacing - 1 - Layout.eps * ((b.idx - a.idx : Nat) : ℚ)
      ≤ b.node.cur - a.node.cur := by
  obtain ⟨la, pa, hLa, hpa, hsa, -, hna, -⟩ := mem_drawn ha
  obtain ⟨lb, pb, hLb, hpb, hsb, -, hnb, -⟩ := mem_drawn hb
  rw [← hl, hLa] at hLb
  obtain rfl := Option.some.inj hLb
  obtain ⟨xa, hUa, hra⟩ := layer_unrounded fo (labelsOf dir items) a.layer la hLa a.idx pa hpa
  obtain ⟨xb, hUb, hrb⟩ := layer_unrounded fo (labelsOf dir items) a.layer la hLa b.idx pb hpb
  have hsep := sep_unrounded' fo.toR _ (C01.solvedItems_sorted fo (labelsOf dir items) a.layer)
  have hwS : ∀ q ∈ (C01.solvedItems fo (labelsOf dir items) a.layer).zip
      (solveSorted fo.toR (C01.solvedItems fo (labelsOf dir items) a.layer)), 0 ≤ q.1.width := by
    intro q hq
    have h1 := (List.of_mem_zip hq).1
    rw [C01.solvedItems_eq] at h1
    exact sorted_width_nonneg fo (labelsOf dir items) (labelsOf_width_nonneg dir items hsz) hsw a.layer q.1 h1
  obtain ⟨d, hd⟩ : ∃ d, b.idx = a.idx + d + 1 := ⟨b.idx - a.idx - 1, by omega⟩
  rw [hd] at hUb
  -- between the solver's own positions every step costs `eps`; rounding the two ends costs 1
  have key := (sub_le_sub_right
    (sep_label_from fo.toR Layout.eps hns hls d _ _ (by simp [layerItem, hsa]) _ a.idx hsep hwS hUa hUb) 1).trans (round_diff xa xb)
  rw [← hra, ← hrb, sub_right_comm] at key
  simp only [layerItem, hsa, hsb, Bool.false_eq_true, if_false, widthOf_labelsOf] at key
  rw [hna, hnb, show b.idx - a.idx = d + 1 by omega]
  exact key

theorem nodeHeight_nonneg (dir : Dir) (items : List PItem) : 0 ≤ nodeHeight dir items :=
  foldl_max_ge_init _ 0

theorem thick_le_nodeHeight (dir : Dir) (items : List PItem) (it : PItem) (h : it ∈ items) :
    thick dir it ≤ nodeHeight dir items :=
  le_foldl_max _ 0 _ (List.mem_map.2 ⟨it, h, rfl⟩)

structure DrawnNode (dir : Dir) (layerGap : ℚ) (items : List PItem) (a : Drawn) : Prop where
  id_lt : a.id < items.length
  layer : a.node.layer = a.layer
  w : a.node.w = (items.getD a.id default).w
  h : a.node.h = (items.getD a.id default).h
  width : a.node.width = along dir (items.getD a.id default)
  ideal : a.node.ideal = (items.getD a.id default).ideal
  box : a.box = modelBox (ropt dir layerGap items) a.node

theorem drawn_node {dir : Dir} {layerGap : ℚ} {fo : FOpts} {items : List PItem} {a : Drawn}
    (h : a ∈ drawn dir layerGap fo items) : DrawnNode dir layerGap items a := by
  obtain ⟨la, pa, hLa, hpa, hsa, hida, hna, hba⟩ := mem_drawn h
  have hlt := compute_ids_lt fo (labelsOf dir items) la (List.mem_of_getElem? hLa) pa (List.mem_of_getElem? hpa)
  rw [labelsOf_length, ← hida] at hlt
  refine ⟨hlt, by rw [hna]; rfl, ?_, ?_, ?_, ?_, hba⟩
  all_goals rw [hna, hida]; rfl

theorem drawn_width {dir : Dir} {layerGap : ℚ} {fo : FOpts} {items : List PItem} {a : Drawn}
    (h : a ∈ drawn dir layerGap fo items) :
    if (ropt dir layerGap items).dir.horizontalAxis then a.node.width = a.node.w else a.node.width = a.node.h := by
  have d := drawn_node h
  change if dir.horizontalAxis then a.node.width = a.node.w else a.node.width = a.node.h
  rw [d.width, d.w, d.h]
  unfold along
  split <;> rfl

theorem drawn_thick {dir : Dir} {layerGap : ℚ} {fo : FOpts} {items : List PItem} {a : Drawn}
    (h : a ∈ drawn dir layerGap fo items) :
    if (ropt dir layerGap items).dir.horizontalAxis then a.node.h ≤ (ropt dir layerGap items).nodeHeight
    else a.node.w ≤ (ropt dir layerGap items).nodeHeight := by
  have d := drawn_node h
  have ht := thick_le_nodeHeight dir items _ (getD_mem (d := default) d.id_lt)
  rw [thick, apply_ite (· ≤ nodeHeight dir items)] at ht
  rwa [d.w, d.h]

theorem drawn_size_nonneg {dir : Dir} {layerGap : ℚ} {fo : FOpts} {items : List PItem}
    (hsz : ∀ it ∈ items, 0 ≤ it.w ∧ 0 ≤ it.h) {a : Drawn} (h : a ∈ drawn dir layerGap fo items) :
    0 ≤ a.node.w ∧ 0 ≤ a.node.h := by
  have d := drawn_node h
  rw [d.w, d.h]
  exact hsz _ (getD_mem d.id_lt)

theorem drawn_place_inj {dir : Dir} {layerGap : ℚ} {fo : FOpts} {items : List PItem} {a b : Drawn}
    (ha : a ∈ drawn dir layerGap fo items) (hb : b ∈ drawn dir layerGap fo items)
    (hl : a.layer = b.layer) (hi : a.idx = b.idx) : a.id = b.id := by
  obtain ⟨la, pa, hLa, hpa, _, hida, _, _⟩ := mem_drawn ha
  obtain ⟨lb, pb, hLb, hpb, _, hidb, _, _⟩ := mem_drawn hb
  rw [← hl, hLa] at hLb
  obtain rfl := Option.some.inj hLb
  rw [← hi, hpa] at hpb
  obtain rfl := Option.some.inj hpb
  rw [hida, hidb]

theorem compute_getElem? (fo : FOpts) (labels : List Label) (j : Nat) :
    (compute fo labels)[j]? = (distribute fo.toD labels)[j]?.map
      (placeLayer fo labels (if j = 0 then none else (compute fo labels)[j - 1]?)) :=
  placeLayers_getElem? fo labels _ none j

theorem compute_layer (fo : FOpts) (labels : List Label) (j : Nat) :
    (∀ pl, (compute fo labels)[j]? = some pl →
      ∃ l, (distribute fo.toD labels)[j]? = some l ∧ (pl.map (·.ref)).Perm l) ∧
    (∀ l, (distribute fo.toD labels)[j]? = some l →
      ∃ pl, (compute fo labels)[j]? = some pl ∧ (pl.map (·.ref)).Perm l) := by
  have h := compute_getElem? fo labels j
  constructor
  · intro pl hpl
    rw [hpl] at h
    obtain ⟨l, hl, rfl⟩ := Option.map_eq_some_iff.1 h.symm
    exact ⟨l, hl, placeLayer_refs_perm fo labels _ l⟩
  · intro l hl
    rw [hl] at h
    exact ⟨_, h, placeLayer_refs_perm fo labels _ l⟩

theorem compute_layer_ids_nodup (fo : FOpts) (labels : List Label) (j : Nat) (pl : List Placed)
    (h : (compute fo labels)[j]? = some pl) : (pl.map (fun p => p.ref.id)).Nodup := by
  obtain ⟨l, hl, hp⟩ := (compute_layer fo labels j).1 pl h
  have h1 := hp.map Ref.id
  rw [List.map_map] at h1
  exact h1.nodup_iff.2 ((distribute_shape fo.toD labels).1 l (List.mem_of_getElem? hl))

theorem find_in_layer (fo : FOpts) (labels : List Label) (j : Nat) (pl : List Placed)
    (h : (compute fo labels)[j]? = some pl) (q : Placed) (hq : q ∈ pl) :
    pl.find? (fun p => p.ref.id == q.ref.id) = some q :=
  find?_unique _ pl q hq (beq_self_eq_true _) fun _ hb e =>
    List.inj_on_of_nodup_map (compute_layer_ids_nodup fo labels j pl h) hb hq (eq_of_beq e)

theorem stub_in_nearer_layer (fo : FOpts) (labels : List Label) (k : Nat) (la : List Placed)
    (hL : (compute fo labels)[k]? = some la) (pa : Placed) (hpa : pa ∈ la) (j : Nat) (hj : j < k) :
    ∃ pj q, (compute fo labels)[j]? = some pj ∧ q ∈ pj ∧ q.ref = Ref.stub pa.ref.id j := by
  -- placing a layer only permutes it: go back to layer `k` of `distribute`, take the stub its chain has in layer `j`,
  -- and find that stub again in the placed layer `j`
  obtain ⟨lk, hlk, hpk⟩ := (compute_layer fo labels k).1 la hL
  obtain ⟨hk, rfl⟩ := List.getElem?_eq_some_iff.1 hlk
  have hr : Ref.stub pa.ref.id j ∈ (distribute fo.toD labels)[j] :=
    (stubChains_distribute fo.toD labels).stub_mem hj hk (hpk.subset (List.mem_map_of_mem hpa))
  obtain ⟨pj, hpj, hperm⟩ := (compute_layer fo labels j).2 _ (List.getElem?_eq_getElem (hj.trans hk))
  obtain ⟨q, hq, eq⟩ := List.mem_map.1 (hperm.symm.subset hr)
  exact ⟨pj, q, hpj, hq, eq⟩

/-- hop `j` of the node built for datum `q.ref.id` is `q.pos`, for `q` an item of layer `j` (label or stub: ids are distinct
within a layer, so `find?` meets `q`) -/
theorem rnode_hop_of_mem (dir : Dir) (items : List PItem) (fo : FOpts) (k : Nat) (pos : Int) {j : Nat} (hj : j < k + 1)
    {pj : List Placed} (hpj : (compute fo (labelsOf dir items))[j]? = some pj) {q : Placed} (hq : q ∈ pj) :
    (rnode dir items (compute fo (labelsOf dir items)) k q.ref.id pos).hops.getD j 0 = (q.pos : ℚ) := by
  simp only [rnode]
  rw [List.getD_eq_getElem?_getD, List.getElem?_map, List.getElem?_range hj, Option.map_some, Option.getD_some,
    List.getD_eq_getElem?_getD, hpj, Option.getD_some, find_in_layer fo _ j pj hpj q hq]
  rfl

theorem drawn_links {dir : Dir} {layerGap : ℚ} {fo : FOpts} {items : List PItem} {a : Drawn}
    (h : a ∈ drawn dir layerGap fo items) :
    a.node.hops.length = a.layer + 1 ∧ a.node.hops.getD a.layer 0 = a.node.cur ∧
      a.node.hops.getLast? = some a.node.cur ∧
      ∀ j, j < a.layer → ∃ p ∈ (compute fo (labelsOf dir items)).getD j [],
        p.ref.id = a.id ∧ p.ref.isStub = true ∧ a.node.hops.getD j 0 = (p.pos : ℚ) := by
  obtain ⟨la, pa, hLa, hpa, hsa, hida, hna, hba⟩ := mem_drawn h
  have hpam : pa ∈ la := List.mem_of_getElem? hpa
  have hlen : a.node.hops.length = a.layer + 1 := by
    rw [hna]; simp [rnode]
  have hcur : a.node.hops.getD a.layer 0 = a.node.cur := by
    rw [hna]
    exact rnode_hop_of_mem dir items fo a.layer pa.pos (Nat.lt_succ_self _) hLa hpam
  refine ⟨hlen, hcur, ?_, ?_⟩
  · rw [List.getLast?_eq_getElem?, hlen, Nat.add_sub_cancel, ← hcur, getD_eq_getElem _ (by omega),
      List.getElem?_eq_getElem]
  · intro j hj
    obtain ⟨pj, q, hpj, hq, hqr⟩ := stub_in_nearer_layer fo _ a.layer la hLa pa hpam j hj
    have hqid : q.ref.id = pa.ref.id := by rw [hqr]; rfl
    refine ⟨q, ?_, ?_, ?_, ?_⟩
    · rw [List.getD_eq_getElem?_getD, hpj]; exact hq
    · rw [hqid, hida]
    · rw [hqr]; rfl
    · rw [hna, ← hqid]
      exact rnode_hop_of_mem dir items fo a.layer pa.pos (Nat.lt_succ_of_lt hj) hpj hq

end Labella.Pipeline
