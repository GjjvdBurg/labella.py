import Labella.Model.Render
import Mathlib.Algebra.Order.Field.Rat
import Mathlib.Tactic.Ring
import Mathlib.Tactic.Linarith
import Mathlib.Tactic.NormNum
/-! Helper lemmas for the render properties (C07/C08): truncation brackets, structure of `pathLoop`, and the drawn box
of a node in coordinates along and across the axis. -/
namespace Labella.Render
open Labella

theorem truncToZero_gt (x : ℚ) : x - 1 < ((truncToZero x : Int) : ℚ) := by
  rw [truncToZero]
  split
  · have := Rat.lt_floor_add_one x
    push_cast at this
    linarith
  · exact lt_of_lt_of_le (sub_one_lt x) Rat.le_ceil

theorem truncToZero_lt (x : ℚ) : ((truncToZero x : Int) : ℚ) < x + 1 := by
  rw [truncToZero]
  split
  · exact lt_of_le_of_lt (Rat.floor_le x) (lt_add_one x)
  · exact Rat.ceil_lt

theorem truncToZero_close (x : ℚ) : |((truncToZero x : Int) : ℚ) - x| < 1 :=
  abs_sub_lt_iff.2 ⟨sub_lt_iff_lt_add'.2 (truncToZero_lt x), sub_lt_comm.1 (truncToZero_gt x)⟩

theorem truncToZero_of_nonneg (x : ℚ) (h : 0 ≤ x) :
    ((truncToZero x : Int) : ℚ) ≤ x ∧ x - 1 < ((truncToZero x : Int) : ℚ) := by
  refine ⟨?_, truncToZero_gt x⟩
  rw [truncToZero, if_pos h]
  exact Rat.floor_le x

theorem truncToZero_of_nonpos (x : ℚ) (h : x ≤ 0) :
    x ≤ ((truncToZero x : Int) : ℚ) ∧ ((truncToZero x : Int) : ℚ) < x + 1 := by
  refine ⟨?_, truncToZero_lt x⟩
  rcases h.lt_or_eq with h | rfl
  · rw [truncToZero, if_neg (not_le.2 h)]
    exact Rat.le_ceil
  · decide

theorem ratAbs_eq_abs (x : ℚ) : ratAbs x = |x| := by
  unfold ratAbs
  split_ifs with h
  · exact (abs_of_nonneg h).symm
  · exact (abs_of_neg (lt_of_not_ge h)).symm

theorem trunc_shift_close {c e x : ℚ} (h : x = c - e) : |c - (((truncToZero x : Int) : ℚ) + e)| ≤ 1 := by
  rw [h, sub_add_eq_sub_sub_swap, abs_sub_comm]
  exact (truncToZero_close (c - e)).le

theorem trunc_close_of_eq {c x : ℚ} (h : x = c) : |c - ((truncToZero x : Int) : ℚ)| ≤ 1 := by
  rw [h, abs_sub_comm]
  exact (truncToZero_close c).le

/-- two centres `(wa + wb) / 2 + s − 1 − tol` apart with `s ≥ 3`: after truncating both origins (each moves by less
than 1) the first box still ends, up to `tol`, before the second begins -/
theorem trunc_gap {ca cb wa wb s tol : ℚ} (hs : 3 ≤ s) (hsep : (wa + wb) / 2 + s - 1 - tol ≤ cb - ca) :
    ((truncToZero (ca - wa / 2) : Int) : ℚ) + wa - tol < ((truncToZero (cb - wb / 2) : Int) : ℚ) := by
  linarith [truncToZero_lt (ca - wa / 2), truncToZero_gt (cb - wb / 2)]

theorem pathLoop_cons_cons (horiz : Bool) (prev a b : Pt) (w : List Pt) (ws : List (List Pt)) :
    pathLoop horiz prev ([a, b] :: w :: ws) =
      (if horiz then vCurve prev a else hCurve prev a) :: Step.L b :: pathLoop horiz b (w :: ws) := rfl

theorem pathLoop_last {α : Type} (f g : α → Pt) (z : α) (horiz : Bool) :
    ∀ (init : List α) (prev : Pt), ∃ pre c1 c2,
      pathLoop horiz prev ((init ++ [z]).map (fun x => [f x, g x])) = pre ++ [Step.C c1 c2 (f z)]
  | [], prev => by
    cases horiz
    · exact ⟨[], _, _, rfl⟩
    · exact ⟨[], _, _, rfl⟩
  | x :: xs, prev => by
    obtain ⟨pre, c1, c2, h⟩ := pathLoop_last f g z horiz xs (g x)
    refine ⟨(if horiz then vCurve prev (f x) else hCurve prev (f x)) :: Step.L (g x) :: pre, c1, c2, ?_⟩
    simp only [List.cons_append, List.map_cons, pathLoop, List.getLastD_cons, List.getLastD_nil]
    rw [if_neg (by simp)]
    rw [h]

theorem pathLoop_curves {α : Type} (f g : α → Pt) (horiz : Bool) (p : Step → Bool)
    (hC : ∀ a b c, p (Step.C a b c) = true) (hL : ∀ q, p (Step.L q) = false) :
    ∀ (l : List α) (prev : Pt),
      ((pathLoop horiz prev (l.map (fun x => [f x, g x]))).filter p).length = l.length
  | [], prev => by simp [pathLoop]
  | [x], prev => by
    cases horiz <;> simp [pathLoop, hCurve, vCurve, hC]
  | x :: y :: ys, prev => by
    have ih := pathLoop_curves f g horiz p hC hL (y :: ys) (g x)
    have hcurve : p (if horiz then vCurve prev (f x) else hCurve prev (f x)) = true := by
      cases horiz <;> simp [hCurve, vCurve, hC]
    simp only [List.map_cons] at ih ⊢
    rw [pathLoop_cons_cons, List.filter_cons_of_pos hcurve, List.filter_cons_of_neg (by simp [hL])]
    simp only [List.length_cons] at ih ⊢
    omega

/-- near-side point of the way-point of hop `p = (position, level)` -/
def wpNear (o : ROpt) (p : Rat × Nat) : Pt :=
  match o.dir with
  | .left => (gapOf o * (((p.2 : Nat) : Rat) + 1) * (-1) + o.nodeHeight, p.1)
  | .right => (gapOf o * (((p.2 : Nat) : Rat) + 1) - o.nodeHeight, p.1)
  | .up => (p.1, gapOf o * (((p.2 : Nat) : Rat) + 1) * (-1) + o.nodeHeight)
  | .down => (p.1, gapOf o * (((p.2 : Nat) : Rat) + 1) - o.nodeHeight)

def wpFar (o : ROpt) (p : Rat × Nat) : Pt :=
  match o.dir with
  | .left => (gapOf o * (((p.2 : Nat) : Rat) + 1) * (-1), p.1)
  | .right => (gapOf o * (((p.2 : Nat) : Rat) + 1), p.1)
  | .up => (p.1, gapOf o * (((p.2 : Nat) : Rat) + 1) * (-1))
  | .down => (p.1, gapOf o * (((p.2 : Nat) : Rat) + 1))

def dotPt (o : ROpt) (n : RNode) : Pt := if o.dir.horizontalAxis then (n.ideal, 0) else (0, n.ideal)

theorem pathSteps_eq (o : ROpt) (n : RNode) :
    pathSteps o n = Step.M (dotPt o n) ::
      pathLoop o.dir.horizontalAxis (dotPt o n) (n.hops.zipIdx.map (fun p => [wpNear o p, wpFar o p])) := by
  obtain ⟨dir, nh, lg⟩ := o
  cases dir <;> rfl

theorem pathSteps_shape (o : ROpt) (n : RNode) (init : List Rat) (h : n.hops = init ++ [n.cur]) :
    ∃ pre c1 c2, pathSteps o n =
      Step.M (dotPt o n) :: (pre ++ [Step.C c1 c2 (wpNear o (n.cur, init.length))]) := by
  rw [pathSteps_eq, h, List.zipIdx_append]
  simp only [List.zipIdx_cons, List.zipIdx_nil, Nat.zero_add]
  obtain ⟨pre, c1, c2, hp⟩ := pathLoop_last (wpNear o) (wpFar o) (n.cur, init.length)
    o.dir.horizontalAxis init.zipIdx (dotPt o n)
  exact ⟨pre, c1, c2, by rw [hp]⟩

theorem modelBox_eq (o : ROpt) (n : RNode) :
    modelBox o n = { ox := ((truncToZero (nodePos o n).1 : Int) : Rat),
                     oy := ((truncToZero (nodePos o n).2 : Int) : Rat), w := n.w, h := n.h } := by
  unfold modelBox boxOrigin
  rfl

theorem modelBox_along (o : ROpt) (n : RNode) :
    (if o.dir.horizontalAxis then (modelBox o n).ox else (modelBox o n).oy)
      = ((truncToZero (n.cur - n.width / 2) : Int) : ℚ) := by
  obtain ⟨dir, nh, lg⟩ := o
  cases dir <;> rfl

theorem modelBox_w (o : ROpt) (n : RNode) : (modelBox o n).w = n.w := rfl

theorem modelBox_h (o : ROpt) (n : RNode) : (modelBox o n).h = n.h := rfl

/-- the `pos` of `layoutXY`: distance of the near side of the node's layer from the axis -/
def posOf (o : ROpt) (n : RNode) : Rat := (n.layer : Rat) * gapOf o + o.layerGap

/-- across the axis `layoutXY` and `nodePos` put the origin at `pos` for right/down, and on the negative side
`nodeHeight` beyond `pos` for up/left (left then shifts by `nodeHeight - w`); `modelBox` truncates it -/
theorem modelBox_across (o : ROpt) (n : RNode) :
    (if o.dir.horizontalAxis then (modelBox o n).oy else (modelBox o n).ox)
      = ((truncToZero (match o.dir with
          | .up => -posOf o n - o.nodeHeight
          | .left => -posOf o n - o.nodeHeight - n.w + o.nodeHeight
          | _ => posOf o n) : Int) : ℚ) := by
  obtain ⟨dir, nh, lg⟩ := o
  cases dir <;> rfl

theorem posOf_ge (o : ROpt) (n : RNode) (hnh : 0 ≤ o.nodeHeight) (hlg : 0 ≤ o.layerGap) :
    o.layerGap ≤ posOf o n :=
  le_add_of_nonneg_left (mul_nonneg (Nat.cast_nonneg _) (add_nonneg hlg hnh))

theorem posOf_step (o : ROpt) (a b : RNode) (hg : 0 ≤ gapOf o) (hab : a.layer < b.layer) :
    posOf o a + gapOf o ≤ posOf o b := by
  have h1 : (a.layer : ℚ) + 1 ≤ (b.layer : ℚ) := by exact_mod_cast hab
  have h2 := mul_le_mul_of_nonneg_right h1 hg
  rw [add_mul, one_mul] at h2
  rw [posOf, add_right_comm]
  exact add_le_add_left h2 _

/-- the near edge of the box is less than 1 (origin truncation) nearer the axis than the near side of its layer; for
`up` the origin is placed `nodeHeight` beyond the layer line, so a thinner label ends farther out still -/
theorem span_near (o : ROpt) (n : RNode) (hup : o.dir = .up → n.h ≤ o.nodeHeight) :
    posOf o n - 1 < ((modelBox o n).span o.dir).1 := by
  have hx := modelBox_across o n
  obtain ⟨dir, nh, lg⟩ := o
  cases dir <;> simp only [Dir.horizontalAxis, Box.span, Bool.false_eq_true, ↓reduceIte,
    modelBox_w, modelBox_h] at hx ⊢ <;> rw [hx]
  · linarith [truncToZero_lt (-posOf ⟨.up, nh, lg⟩ n - nh), hup rfl]
  · exact truncToZero_gt _
  · linarith [truncToZero_lt (-posOf ⟨.left, nh, lg⟩ n - nh - n.w + nh)]
  · exact truncToZero_gt _

theorem span_far (o : ROpt) (n : RNode) (hnh : 0 ≤ o.nodeHeight) (hp : 0 ≤ posOf o n) (hw : 0 ≤ n.w)
    (hth : if o.dir.horizontalAxis then n.h ≤ o.nodeHeight else n.w ≤ o.nodeHeight) :
    ((modelBox o n).span o.dir).2 ≤ posOf o n + o.nodeHeight := by
  have hx := modelBox_across o n
  obtain ⟨dir, nh, lg⟩ := o
  cases dir <;> simp only [Dir.horizontalAxis, Box.span, Bool.false_eq_true, ↓reduceIte,
    modelBox_w, modelBox_h] at hx hth ⊢ <;> rw [hx]
  · linarith [(truncToZero_of_nonpos (-posOf ⟨.up, nh, lg⟩ n - nh) (by linarith)).1]
  · exact add_le_add (truncToZero_of_nonneg _ hp).1 hth
  · linarith [(truncToZero_of_nonpos (-posOf ⟨.left, nh, lg⟩ n - nh - n.w + nh) (by linarith)).1]
  · exact add_le_add (truncToZero_of_nonneg _ hp).1 hth

theorem thick_up {o : ROpt} {n : RNode}
    (hth : if o.dir.horizontalAxis then n.h ≤ o.nodeHeight else n.w ≤ o.nodeHeight) (hd : o.dir = .up) :
    n.h ≤ o.nodeHeight := by
  rwa [hd] at hth

theorem onSideB_eq (dir : Dir) (d : ℚ) (b : Box) : onSideB dir d b = decide (d ≤ (b.span dir).1) := by
  cases dir
  · simp only [onSideB, Box.span, le_neg]
  · rfl
  · simp only [onSideB, Box.span, le_neg]
  · rfl

theorem span_nested (o : ROpt) (a b : RNode) (hnh : 0 ≤ o.nodeHeight) (hlg : 1 ≤ o.layerGap)
    (hab : a.layer < b.layer)
    (hta : if o.dir.horizontalAxis then a.h ≤ o.nodeHeight else a.w ≤ o.nodeHeight) (hwa : 0 ≤ a.w)
    (hub : o.dir = .up → b.h ≤ o.nodeHeight) :
    ((modelBox o a).span o.dir).2 ≤ ((modelBox o b).span o.dir).1 := by
  have hlg0 : 0 ≤ o.layerGap := le_trans zero_le_one hlg
  have hfar := span_far o a hnh (le_trans hlg0 (posOf_ge o a hnh hlg0)) hwa hta
  have hstep := posOf_step o a b (add_nonneg hlg0 hnh) hab
  have hnear := span_near o b hub
  unfold gapOf at hstep
  linarith

theorem wpNear_close_facingMid (o : ROpt) (n : RNode)
    (hwid : if o.dir.horizontalAxis then n.width = n.w else n.width = n.h) (hup : o.dir = .up → n.h = o.nodeHeight) :
    ptCloseB 1 (wpNear o (n.cur, n.layer)) ((modelBox o n).facingMid o.dir) = true := by
  have hal : |n.cur - (((truncToZero (n.cur - n.width / 2) : Int) : ℚ) + n.width / 2)| ≤ 1 := trunc_shift_close rfl
  simp only [ptCloseB, Bool.and_eq_true, decide_eq_true_eq, ratAbs_eq_abs]
  obtain ⟨dir, nh, lg⟩ := o
  cases dir <;> simp only [wpNear, Box.facingMid, modelBox_eq, nodePos, layoutXY, gapOf]
  · rw [← show n.width = n.w from hwid, show n.h = nh from hup rfl]
    exact ⟨hal, trunc_shift_close (by ring)⟩
  · rw [← show n.width = n.w from hwid]
    exact ⟨hal, trunc_close_of_eq (by ring)⟩
  · rw [← show n.width = n.h from hwid]
    exact ⟨trunc_shift_close (by ring), hal⟩
  · rw [← show n.width = n.h from hwid]
    exact ⟨trunc_close_of_eq (by ring), hal⟩

end Labella.Render
