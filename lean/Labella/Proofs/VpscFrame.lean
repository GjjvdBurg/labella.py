import Labella.Proofs.VpscBasic
import Mathlib.Logic.Relation
import Mathlib.Algebra.Order.Field.Rat
import Mathlib.Tactic.Linarith
import Mathlib.Tactic.Ring
import Mathlib.Tactic.FieldSimp
/-! Frame lemmas (`CoreEq`, `Quiet`) of the elementary operations and of `computeLm`; transfer of `Inv` / `Covered` / `VarsNodup` /
`AdjNodup`; slack of a constraint inside a block; `mostViolated_spec`; `init_inv`, `init_varsNodup`, `init_adjNodup`.

The relations "`st'` is `st` up to …" used in the C05 proofs, and the operations that give them:
* `Frame` (VpscInv): sizes and problem data (`d`, `w`, `s`, adjacency lists; `l`, `r`, `g`) kept, `err` only raised — every
  operation of the solver;
* `CoreEq` (VpscInv): `Frame`, and `vs`, `inactive`, the flags `active` / `unsat` and all `vars` lists kept — `computeLm`,
  `findMinLM`, `updateWeightedPosition`, `insertBlock`, `removeBlock`;
* `Quiet`: `vs`, `bs`, `list` kept — `setC`, `computeLm`, `findMinLM`, `mostViolated`;
* `SameG` (VpscLoops): `Quiet`, and of the constraints everything but `unsat` and `lm` kept — `mostViolated`;
* `KKT.LmOnly` (VpscKKTTree): `CoreEq` and `bs` kept, so that of the constraints only `lm` changes — `computeLm`;
* `GEq` (VpscSplit): `cs` and the adjacency lists kept — `newBlock`, `populateSplitBlock`;
* `StatEq` (VpscStats): `vs` kept, the block objects up to `ind` — `insertBlock`, `removeBlock`;
* `DEq` (VpscResolve): everything but the desired positions kept — `setDesired`.

Auxiliary definitions and lemmas of this file live in `Labella.Vpsc.FrameAux`. -/
namespace Labella.Vpsc

/-! ## What a `CoreEq` / `Frame` carries over -/

theorem FrameAux.getV_of_coreEq {st st' : St} (h : CoreEq st st') (i : Nat) : getV st' i = getV st i :=
  getV_congr h.vs_eq i

open FrameAux

theorem neighbours_of_coreEq {st st' : St} (h : CoreEq st st') (v : Nat) : neighbours st' v = neighbours st v := by
  have hV := FrameAux.getV_of_coreEq h
  have hl : ∀ i, (getC st' i).l = (getC st i).l := fun i => (h.cstat i).1
  have hr : ∀ i, (getC st' i).r = (getC st i).r := fun i => (h.cstat i).2.1
  simp only [neighbours, hV, hl, hr]

theorem Inv.of_coreEq {st st' : St} (h : CoreEq st st') (hi : Inv st) : Inv st' :=
  hi.of_same h.vsize h.csize h.bsize (fun i => by rw [getV_of_coreEq h]; exact ⟨rfl, rfl, rfl, rfl, rfl⟩)
    (fun i => ⟨(h.cstat i).1, (h.cstat i).2.1, (h.cstat i).2.2, (h.flags i).1⟩) h.bvars
    (fun ci hc => hi.wf.inactive_lt ci (h.inactive_eq ▸ hc))

theorem CoreEq.conn {st st' : St} (h : CoreEq st st') (x : Option Nat) : Conn st' x = Conn st x :=
  Conn.congr h.csize (fun i => (h.cstat i).1) (fun i => (h.cstat i).2.1) (fun i => (h.flags i).1) x

theorem Covered.of_coreEq {st st' : St} {x : Option Nat} (h : CoreEq st st') (hc : Covered st x) : Covered st' x := by
  intro ci hci hx
  rw [h.csize] at hci
  rw [(h.flags ci).1, (h.flags ci).2, h.inactive_eq]
  exact hc ci hci hx

theorem VarsNodup.of_coreEq {st st' : St} (h : CoreEq st st') (hn : VarsNodup st) : VarsNodup st' := by
  intro v hv
  rw [h.vsize] at hv
  rw [getV_of_coreEq h, h.bvars]
  exact hn v hv

theorem AdjNodup.of_frame {st st' : St} (h : Frame st st') (hn : AdjNodup st) : AdjNodup st' := by
  intro v hv
  rw [h.vsize] at hv
  rw [(h.vstat v).2.2.2.1, (h.vstat v).2.2.2.2]
  exact hn v hv

/-! ## Elementary `CoreEq` steps -/

theorem CoreEq.of_eqs {st st' : St} (hvs : st'.vs = st.vs) (hin : st'.inactive = st.inactive) (hcs : st'.cs.size = st.cs.size)
    (hbs : st.bs.size ≤ st'.bs.size)
    (hc : ∀ i, (getC st' i).l = (getC st i).l ∧ (getC st' i).r = (getC st i).r ∧ (getC st' i).g = (getC st i).g ∧
      (getC st' i).active = (getC st i).active ∧ (getC st' i).unsat = (getC st i).unsat)
    (hb : ∀ b, (getB st' b).vars = (getB st b).vars) (he : st.err = true → st'.err = true) : CoreEq st st' where
  vsize := by rw [hvs]
  csize := hcs
  bsize := hbs
  vstat := fun i => by rw [getV_congr hvs]; exact ⟨rfl, rfl, rfl, rfl, rfl⟩
  cstat := fun i => ⟨(hc i).1, (hc i).2.1, (hc i).2.2.1⟩
  errmono := he
  vs_eq := hvs
  inactive_eq := hin
  flags := fun i => ⟨(hc i).2.2.2.1, (hc i).2.2.2.2⟩
  bvars := hb

namespace FrameAux

theorem coreEq_setB (st : St) (b : Nat) (blk : B) (h : blk.vars = (getB st b).vars) : CoreEq st (setB st b blk) :=
  CoreEq.of_eqs rfl rfl rfl (by simp) (fun _ => ⟨rfl, rfl, rfl, rfl, rfl⟩) (fun b' => by
    rw [getB_setB]
    split
    · next hb => rw [h, hb.1]
    · rfl) id

theorem coreEq_setC (st : St) (ci : Nat) (c : C) (hl : c.l = (getC st ci).l) (hr : c.r = (getC st ci).r)
    (hg : c.g = (getC st ci).g) (ha : c.active = (getC st ci).active) (hu : c.unsat = (getC st ci).unsat) :
    CoreEq st (setC st ci c) :=
  CoreEq.of_eqs rfl rfl (by simp) (Nat.le_refl _) (fun i => by
    rw [getC_setC]
    split
    · next hb => rw [hl, hr, hg, ha, hu, hb.1]; exact ⟨rfl, rfl, rfl, rfl, rfl⟩
    · exact ⟨rfl, rfl, rfl, rfl, rfl⟩) (fun _ => rfl) id

theorem coreEq_err (st : St) (e : Bool) (h : st.err = true → e = true) : CoreEq st { st with err := e } :=
  CoreEq.of_eqs rfl rfl rfl (Nat.le_refl _) (fun _ => ⟨rfl, rfl, rfl, rfl, rfl⟩) (fun _ => rfl) h

end FrameAux

theorem setList_coreEq (st : St) (l : Array Nat) : CoreEq st { st with list := l } :=
  CoreEq.of_eqs rfl rfl rfl (Nat.le_refl _) (fun _ => ⟨rfl, rfl, rfl, rfl, rfl⟩) (fun _ => rfl) id

theorem FrameAux.addStats_vars (b : B) (v : V) : (addStats b v).vars = b.vars := rfl

theorem FrameAux.foldl_addStats_vars (st : St) (l : List Nat) (b : B) :
    (l.foldl (fun acc i => addStats acc (getV st i)) b).vars = b.vars :=
  foldl_inv (fun acc : B => acc.vars = b.vars) (fun acc i => addStats acc (getV st i)) l b rfl (fun _ _ _ h => h)

theorem updateWeightedPosition_coreEq (st : St) (b : Nat) : CoreEq st (updateWeightedPosition st b) := by
  unfold updateWeightedPosition
  apply coreEq_setB
  simp only
  rw [foldl_addStats_vars]

theorem insertBlock_coreEq (st : St) (b : Nat) : CoreEq st (insertBlock st b) := by
  unfold insertBlock
  exact (coreEq_setB st b { getB st b with ind := st.list.size } rfl).trans (setList_coreEq _ _)

theorem removeSet_coreEq (st : St) (b : Nat) : CoreEq st (removeSet st b) := by
  unfold removeSet
  simp only
  split
  · exact (setList_coreEq st _).trans (coreEq_setB _ _ _ rfl)
  · exact CoreEq.refl st

theorem removeBlock_coreEq (st : St) (b : Nat) : CoreEq st (removeBlock st b) := by
  unfold removeBlock
  exact (removeSet_coreEq st b).trans (setList_coreEq _ _)

theorem removeBlock_cs (st : St) (b : Nat) : (removeBlock st b).cs = st.cs := by
  unfold removeBlock removeSet
  dsimp only
  split <;> rfl

/-! ## Steps that touch neither the variables, nor the block objects, nor the block list -/

structure Quiet (st st' : St) : Prop where
  vs_eq : st'.vs = st.vs
  bs_eq : st'.bs = st.bs
  list_eq : st'.list = st.list

theorem Quiet.refl (st : St) : Quiet st st := ⟨rfl, rfl, rfl⟩

theorem Quiet.trans {a b c : St} (h1 : Quiet a b) (h2 : Quiet b c) : Quiet a c :=
  ⟨h2.vs_eq.trans h1.vs_eq, h2.bs_eq.trans h1.bs_eq, h2.list_eq.trans h1.list_eq⟩

theorem Quiet.getV {st st' : St} (h : Quiet st st') (i : Nat) : getV st' i = getV st i := getV_congr h.vs_eq i

theorem Quiet.getB {st st' : St} (h : Quiet st st') (i : Nat) : getB st' i = getB st i := getB_congr h.bs_eq i

theorem quiet_setC (st : St) (ci : Nat) (c : C) : Quiet st (setC st ci c) := ⟨rfl, rfl, rfl⟩
theorem quiet_setInactive (st : St) (l : Array Nat) : Quiet st { st with inactive := l } := ⟨rfl, rfl, rfl⟩
theorem quiet_setErr (st : St) (e : Bool) : Quiet st { st with err := e } := ⟨rfl, rfl, rfl⟩

/-! ## Slack -/

theorem slack_same_block (st : St) (hwf : WF st) (ci : Nat) (hci : ci < st.cs.size)
    (hu : (getC st ci).unsat = false)
    (hb : (getV st (getC st ci).l).block = (getV st (getC st ci).r).block) :
    slack st ci = (getV st (getC st ci).r).offset - (getV st (getC st ci).l).offset - (getC st ci).g := by
  have hl := hwf.scale_ne _ (hwf.lr ci hci).1
  have hr := hwf.scale_ne _ (hwf.lr ci hci).2
  unfold slack position
  simp only [hu, hb, Bool.false_eq_true, if_false]
  rw [mul_div_cancel₀ _ hr, mul_div_cancel₀ _ hl]
  ring

theorem slack_active (st : St) (hinv : Inv st) (ci : Nat) (hci : ci < st.cs.size)
    (ha : (getC st ci).active = true) (hu : (getC st ci).unsat = false) : slack st ci = 0 := by
  rw [slack_same_block st hinv.wf ci hci hu (same_block_of_active hinv hci ha), hinv.tight ci hci ha]
  ring

/-! ## `computeLm` -/

namespace FrameAux

/-- the body of the loop of `computeLm` -/
def lmStep (fuel : Nat) (track : Bool) (v : Nat) (u : Option Nat) (acc : St × Option Nat × Rat) (p : Nat × Nat) :
    St × Option Nat × Rat :=
  let st := acc.1
  if (getC st p.1).active && u != some p.2 then
    let sub := computeLm fuel st track acc.2.1 p.2 (some v)
    let st := sub.1
    let d := sub.2.2
    let cc := getC st p.1
    let lm := if p.2 == cc.r then d else -d
    let dv := if p.2 == cc.r then acc.2.2 + d * (getV st cc.l).s else acc.2.2 + d * (getV st cc.r).s
    let st := setC st p.1 { cc with lm := lm }
    let m := if track then
        (match sub.2.1 with
         | none => some p.1
         | some mi => if lm < (getC st mi).lm then some p.1 else some mi)
      else sub.2.1
    (st, m, dv)
  else acc

theorem computeLm_succ (fuel : Nat) (st : St) (track : Bool) (m : Option Nat) (v : Nat) (u : Option Nat) :
    computeLm (fuel + 1) st track m v u =
      (((neighbours st v).foldl (lmStep fuel track v u) (st, m, dfdv st v)).1,
       ((neighbours st v).foldl (lmStep fuel track v u) (st, m, dfdv st v)).2.1,
       ((neighbours st v).foldl (lmStep fuel track v u) (st, m, dfdv st v)).2.2 /
         (getV ((neighbours st v).foldl (lmStep fuel track v u) (st, m, dfdv st v)).1 v).s) := by
  rw [computeLm]
  rfl

theorem active_lt (st : St) (ci : Nat) (h : (getC st ci).active = true) : ci < st.cs.size := by
  by_contra hn
  have : getC st ci = default := by
    unfold getC
    simp [Array.getD_eq_getD_getElem?, Array.getElem?_eq_none (Nat.le_of_not_lt hn)]
  rw [this] at h
  exact Bool.false_ne_true h

theorem lmStep_pos (fuel : Nat) (track : Bool) (v : Nat) (u : Option Nat) (acc : St × Option Nat × Rat) (c w : Nat)
    (h : ((getC acc.1 c).active && u != some w) = true) (sub : St × Option Nat × Rat)
    (hsub : sub = computeLm fuel acc.1 track acc.2.1 w (some v)) :
    (lmStep fuel track v u acc (c, w)).1 =
      setC sub.1 c { getC sub.1 c with lm := if w == (getC sub.1 c).r then sub.2.2 else -sub.2.2 } ∧
    (lmStep fuel track v u acc (c, w)).2.2 =
      if w == (getC sub.1 c).r then acc.2.2 + sub.2.2 * (getV sub.1 (getC sub.1 c).l).s
      else acc.2.2 + sub.2.2 * (getV sub.1 (getC sub.1 c).r).s := by
  subst hsub
  unfold lmStep
  dsimp only
  rw [if_pos h]
  exact ⟨rfl, rfl⟩

theorem lmStep_neg (fuel : Nat) (track : Bool) (v : Nat) (u : Option Nat) (acc : St × Option Nat × Rat) (p : Nat × Nat)
    (h : ¬ ((getC acc.1 p.1).active && u != some p.2) = true) : lmStep fuel track v u acc p = acc := by
  unfold lmStep
  dsimp only
  rw [if_neg h]

theorem lmStep_cases (fuel : Nat) (track : Bool) (v : Nat) (u : Option Nat) (acc : St × Option Nat × Rat) (p : Nat × Nat) :
    lmStep fuel track v u acc p = acc ∨
    ((getC acc.1 p.1).active = true ∧ u ≠ some p.2 ∧
      (∃ lm, (lmStep fuel track v u acc p).1 = setC (computeLm fuel acc.1 track acc.2.1 p.2 (some v)).1 p.1
        { getC (computeLm fuel acc.1 track acc.2.1 p.2 (some v)).1 p.1 with lm := lm }) ∧
      ((lmStep fuel track v u acc p).2.1 = (computeLm fuel acc.1 track acc.2.1 p.2 (some v)).2.1 ∨
        (lmStep fuel track v u acc p).2.1 = some p.1)) := by
  by_cases hc : ((getC acc.1 p.1).active && u != some p.2) = true
  · unfold lmStep
    simp only [hc, if_true]
    refine Or.inr ⟨(Bool.and_eq_true _ _ ▸ hc).1, bne_iff_ne.1 (Bool.and_eq_true _ _ ▸ hc).2, ⟨_, rfl⟩, ?_⟩
    cases track with
    | false => exact Or.inl rfl
    | true =>
      simp only [if_true]
      split
      · exact Or.inr rfl
      · next mi hmi =>
        split_ifs <;> first | exact Or.inr rfl | exact Or.inl hmi.symm
  · exact Or.inl (lmStep_neg fuel track v u acc p hc)

theorem computeLm_spec (track : Bool) (fuel : Nat) : ∀ (st : St) (m : Option Nat) (v : Nat) (u : Option Nat),
    CoreEq st (computeLm fuel st track m v u).1 ∧ Quiet st (computeLm fuel st track m v u).1 ∧
    ((computeLm fuel st track m v u).2.1 = m ∨
      ∃ ci, (computeLm fuel st track m v u).2.1 = some ci ∧ (getC st ci).active = true) := by
  induction fuel with
  | zero =>
    intro st m v u
    rw [computeLm]
    exact ⟨coreEq_err st true (fun _ => rfl), quiet_setErr st true, Or.inl rfl⟩
  | succ fuel ih =>
    intro st m v u
    rw [computeLm_succ]
    refine foldl_inv (fun acc : St × Option Nat × Rat => CoreEq st acc.1 ∧ Quiet st acc.1 ∧
      (acc.2.1 = m ∨ ∃ ci, acc.2.1 = some ci ∧ (getC st ci).active = true)) _ _ _
      ⟨CoreEq.refl st, Quiet.refl st, Or.inl rfl⟩ ?_
    rintro acc p _ ⟨hce, hq, hm⟩
    rcases lmStep_cases fuel track v u acc p with h | ⟨hact, _, ⟨lm, h1⟩, h2⟩
    · rw [h]; exact ⟨hce, hq, hm⟩
    · obtain ⟨i1, iq, i2⟩ := ih acc.1 acc.2.1 p.2 (some v)
      rw [h1]
      refine ⟨(hce.trans i1).trans (coreEq_setC _ _ _ rfl rfl rfl rfl rfl), (hq.trans iq).trans (quiet_setC _ _ _), ?_⟩
      rcases h2 with h2 | h2 <;> rw [h2]
      · rcases i2 with i2 | ⟨ci, i2, i3⟩
        · rw [i2]; exact hm
        · exact Or.inr ⟨ci, i2, by rw [← (hce.flags ci).1]; exact i3⟩
      · exact Or.inr ⟨p.1, rfl, by rw [← (hce.flags p.1).1]; exact hact⟩

end FrameAux

theorem computeLm_coreEq (fuel : Nat) (st : St) (track : Bool) (m : Option Nat) (v : Nat) (u : Option Nat) :
    CoreEq st (computeLm fuel st track m v u).1 :=
  (computeLm_spec track fuel st m v u).1

theorem computeLm_quiet (track : Bool) (fuel : Nat) (st : St) (m : Option Nat) (v : Nat) (u : Option Nat) :
    Quiet st (computeLm fuel st track m v u).1 :=
  (computeLm_spec track fuel st m v u).2.1

theorem findMinLM_nil (st : St) (b : Nat) (h : (getB st b).vars = []) :
    findMinLM st b = ({ st with err := true }, none) := by
  unfold findMinLM; rw [h]

theorem findMinLM_cons (st : St) (b v0 : Nat) (t : List Nat) (h : (getB st b).vars = v0 :: t) :
    (findMinLM st b).1 = (computeLm (travFuel st) st true none v0 none).1 ∧
    (findMinLM st b).2 = (computeLm (travFuel st) st true none v0 none).2.1 := by
  unfold findMinLM
  rw [h]
  simp only [and_self]

theorem findMinLM_coreEq (st : St) (b : Nat) : CoreEq st (findMinLM st b).1 := by
  cases h : (getB st b).vars with
  | nil =>
    rw [findMinLM_nil st b h]
    exact coreEq_err st true (fun _ => rfl)
  | cons v0 t =>
    rw [(findMinLM_cons st b v0 t h).1]
    exact computeLm_coreEq _ _ _ _ _ _

theorem findMinLM_quiet (st : St) (b : Nat) : Quiet st (findMinLM st b).1 := by
  cases h : (getB st b).vars with
  | nil =>
    rw [findMinLM_nil st b h]
    exact quiet_setErr st true
  | cons v0 t =>
    rw [(findMinLM_cons st b v0 t h).1]
    exact computeLm_quiet _ _ _ _ _ _

theorem computeLm_succ_fst (fuel : Nat) (st : St) (track : Bool) (m : Option Nat) (v : Nat) (u : Option Nat) :
    (computeLm (fuel + 1) st track m v u).1 =
      ((neighbours st v).foldl (FrameAux.lmStep fuel track v u) (st, m, dfdv st v)).1 := by
  rw [FrameAux.computeLm_succ]

theorem findMinLM_some (st : St) (hwf : WF st) (b ci : Nat) (h : (findMinLM st b).2 = some ci) :
    ci < st.cs.size ∧ (getC st ci).active = true := by
  have _ := hwf
  cases hv : (getB st b).vars with
  | nil =>
    rw [findMinLM_nil st b hv] at h
    exact absurd h (by simp)
  | cons v0 t =>
    rw [(findMinLM_cons st b v0 t hv).2] at h
    rcases (computeLm_spec true (travFuel st) st none v0 none).2.2 with h2 | ⟨cj, h2, h3⟩
    · rw [h2] at h; exact absurd h (by simp)
    · rw [h2] at h
      cases h
      exact ⟨active_lt st _ h3, h3⟩


/-! ## `mostViolated` -/

namespace FrameAux

theorem natArr_getD_setIfInBounds (a : Array Nat) (i j x : Nat) :
    (a.setIfInBounds i x).getD j 0 = if j = i ∧ i < a.size then x else a.getD j 0 :=
  getD_setIfInBounds ..

theorem natArr_mem_toList_iff (a : Array Nat) (c : Nat) : c ∈ a.toList ↔ ∃ j, j < a.size ∧ a.getD j 0 = c := by
  rw [Array.mem_toList_iff, Array.mem_iff_getElem]
  constructor
  · rintro ⟨j, hj, h⟩
    exact ⟨j, hj, by simp [Array.getD_eq_getD_getElem?, hj, h]⟩
  · rintro ⟨j, hj, h⟩
    refine ⟨j, hj, ?_⟩
    simpa [Array.getD_eq_getD_getElem?, hj] using h

/-- the body of the loop of `mostViolated` -/
def mvStep (st : St) (acc : Rat × Option Nat × Nat) (i : Nat) : Rat × Option Nat × Nat :=
  let c := st.inactive.getD i 0
  if (getC st c).unsat then acc
  else
    let sl := slack st c
    if sl < acc.1 then (sl, some c, i) else acc

def mvFold (st : St) (k : Nat) : Rat × Option Nat × Nat :=
  (List.range k).foldl (mvStep st) (maxsize, none, st.inactive.size)

theorem mostViolated_eq (st : St) : mostViolated st =
    match (mvFold st st.inactive.size).2.1 with
    | none => (st, none)
    | some v =>
      if (mvFold st st.inactive.size).2.2 != st.inactive.size &&
          ((mvFold st st.inactive.size).1 < Gen.zeroUpperBound && !(getC st v).active) then
        ({ st with inactive := st.inactive.setIfInBounds (mvFold st st.inactive.size).2.2 (st.inactive.getD (st.inactive.size - 1) 0) }, some v)
      else (st, some v) := rfl

theorem mostViolated_fst (st : St) : (mostViolated st).1 = { st with inactive := (mostViolated st).1.inactive } := by
  rw [mostViolated_eq]
  split
  · rfl
  · split <;> rfl

theorem mvFold_succ (st : St) (k : Nat) : mvFold st (k + 1) = mvStep st (mvFold st k) k := by
  unfold mvFold
  rw [List.range_succ, List.foldl_append]
  rfl

theorem mvFold_inv (st : St) (k : Nat) :
    ((mvFold st k).2.1 = none → (mvFold st k).1 = maxsize) ∧
    (∀ j, j < k → (getC st (st.inactive.getD j 0)).unsat = false →
      (mvFold st k).1 ≤ slack st (st.inactive.getD j 0)) ∧
    (∀ v, (mvFold st k).2.1 = some v → (mvFold st k).2.2 < k ∧ st.inactive.getD (mvFold st k).2.2 0 = v ∧
      (getC st v).unsat = false ∧ (mvFold st k).1 = slack st v) := by
  induction k with
  | zero =>
    refine ⟨fun _ => rfl, fun j hj => absurd hj (Nat.not_lt_zero j), fun v hv => ?_⟩
    exact absurd hv (by simp [mvFold])
  | succ k ih =>
    obtain ⟨ih1, ih2, ih3⟩ := ih
    rw [mvFold_succ]
    by_cases hlt : (getC st (st.inactive.getD k 0)).unsat = false ∧ slack st (st.inactive.getD k 0) < (mvFold st k).1
    · have e : mvStep st (mvFold st k) k = (slack st (st.inactive.getD k 0), some (st.inactive.getD k 0), k) := by
        unfold mvStep
        simp only [hlt.1, Bool.false_eq_true, if_false, if_pos hlt.2]
      rw [e]
      refine ⟨fun h => absurd h (by simp), fun j hj hju => ?_, fun v hv => ?_⟩
      · rcases Nat.lt_succ_iff_lt_or_eq.mp hj with hj | hj
        · exact le_trans (le_of_lt hlt.2) (ih2 j hj hju)
        · subst hj; exact le_refl _
      · simp only [Option.some.injEq] at hv
        subst hv
        exact ⟨Nat.lt_succ_self k, rfl, hlt.1, rfl⟩
    · have e : mvStep st (mvFold st k) k = mvFold st k := by
        unfold mvStep
        simp only
        split
        · rfl
        · next hu => exact if_neg (fun h => hlt ⟨Bool.eq_false_iff.2 hu, h⟩)
      rw [e]
      refine ⟨ih1, fun j hj hju => ?_, fun v hv => ?_⟩
      · rcases Nat.lt_succ_iff_lt_or_eq.mp hj with hj | hj
        · exact ih2 j hj hju
        · subst hj; exact not_lt.mp (fun h => hlt ⟨hju, h⟩)
      · obtain ⟨a, b, c, d⟩ := ih3 v hv
        exact ⟨Nat.lt_succ_of_lt a, b, c, d⟩

end FrameAux

/-- the pair `r` that `mostViolated st` returns: only `inactive` changes, and only by dropping the chosen constraint when
it is going to be processed (violated and inactive) -/
structure MVSpec (st : St) (r : St × Option Nat) : Prop where
  vs_eq : r.1.vs = st.vs
  cs_eq : r.1.cs = st.cs
  bs_eq : r.1.bs = st.bs
  list_eq : r.1.list = st.list
  err_eq : r.1.err = st.err
  inactive_sub : ∀ c ∈ r.1.inactive.toList, c ∈ st.inactive.toList
  choice : match r.2 with
    | none => r.1.inactive = st.inactive ∧ ∀ c ∈ st.inactive.toList, (getC st c).unsat = false → maxsize ≤ slack st c
    | some v => v ∈ st.inactive.toList ∧ (getC st v).unsat = false ∧
        (∀ c ∈ st.inactive.toList, (getC st c).unsat = false → slack st v ≤ slack st c) ∧
        (if slack st v < Gen.zeroUpperBound ∧ (getC st v).active = false
         then ∀ c ∈ st.inactive.toList, c ≠ v → c ∈ r.1.inactive.toList
         else r.1.inactive = st.inactive)

theorem mostViolated_spec (st : St) : MVSpec st (mostViolated st) := by
  obtain ⟨h1, h2, h3⟩ := mvFold_inv st st.inactive.size
  cases hm : (mvFold st st.inactive.size).2.1 with
  | none =>
    rw [mostViolated_eq, hm]
    refine ⟨rfl, rfl, rfl, rfl, rfl, fun c hc => hc, rfl, fun c hc hu => ?_⟩
    obtain ⟨j, hj, hjc⟩ := (natArr_mem_toList_iff _ _).1 hc
    subst hjc
    rw [← h1 hm]
    exact h2 j hj hu
  | some v =>
    obtain ⟨hidx, hget, hvu, hsl⟩ := h3 v hm
    have hvmem : v ∈ st.inactive.toList := (natArr_mem_toList_iff _ _).2 ⟨_, hidx, hget⟩
    have hmin : ∀ c ∈ st.inactive.toList, (getC st c).unsat = false → slack st v ≤ slack st c := by
      intro c hc hu
      obtain ⟨j, hj, hjc⟩ := (natArr_mem_toList_iff _ _).1 hc
      subst hjc
      rw [← hsl]
      exact h2 j hj hu
    have hiff : ((mvFold st st.inactive.size).2.2 != st.inactive.size &&
        ((mvFold st st.inactive.size).1 < Gen.zeroUpperBound && !(getC st v).active)) = true ↔
        slack st v < Gen.zeroUpperBound ∧ (getC st v).active = false := by
      rw [hsl]
      simp [Nat.ne_of_lt hidx]
    rw [mostViolated_eq, hm]
    simp only
    by_cases hcond : slack st v < Gen.zeroUpperBound ∧ (getC st v).active = false
    · rw [if_pos (hiff.2 hcond)]
      refine ⟨rfl, rfl, rfl, rfl, rfl, fun c hc => ?_, hvmem, hvu, hmin, ?_⟩
      · obtain ⟨j, hj, hjc⟩ := (natArr_mem_toList_iff _ _).1 hc
        rw [natArr_getD_setIfInBounds] at hjc
        rw [Array.size_setIfInBounds] at hj
        by_cases hji : j = (mvFold st st.inactive.size).2.2 ∧ (mvFold st st.inactive.size).2.2 < st.inactive.size
        · rw [if_pos hji] at hjc
          exact (natArr_mem_toList_iff _ _).2 ⟨st.inactive.size - 1, by omega, hjc⟩
        · rw [if_neg hji] at hjc
          exact (natArr_mem_toList_iff _ _).2 ⟨j, hj, hjc⟩
      · rw [if_pos hcond]
        intro c hc hcv
        obtain ⟨j, hj, hjc⟩ := (natArr_mem_toList_iff _ _).1 hc
        refine (natArr_mem_toList_iff _ _).2 ⟨j, by rw [Array.size_setIfInBounds]; exact hj, ?_⟩
        rw [natArr_getD_setIfInBounds, if_neg]
        · exact hjc
        · rintro ⟨hji, _⟩
          apply hcv
          rw [← hjc, hji, hget]
    · rw [if_neg (fun hh => hcond (hiff.1 hh))]
      refine ⟨rfl, rfl, rfl, rfl, rfl, fun c hc => hc, hvmem, hvu, hmin, ?_⟩
      rw [if_neg hcond]

theorem mostViolated_quiet (st : St) : Quiet st (mostViolated st).1 :=
  ⟨(mostViolated_spec st).vs_eq, (mostViolated_spec st).bs_eq, (mostViolated_spec st).list_eq⟩

/-! ## `init` : the adjacency lists -/

namespace FrameAux

def mkV (p : Rat × Rat × Rat) : V :=
  { d := p.1, w := p.2.1, s := p.2.2, offset := 0, block := 0, cOut := [], cIn := [] }

def mkC (p : Nat × Nat × Rat) : C :=
  { l := p.1, r := p.2.1, g := p.2.2, active := false, unsat := false, lm := 0 }

def adjStep (vs : Array V) (p : (Nat × Nat × Rat) × Nat) : Array V :=
  (vs.modify p.1.1 (fun v => { v with cOut := v.cOut ++ [p.2] })).modify p.1.2.1
    (fun v => { v with cIn := v.cIn ++ [p.2] })

/-- the solver state before the blocks are created -/
def init0 (vars : List (Rat × Rat × Rat)) (cons : List (Nat × Nat × Rat)) : St :=
  { vs := cons.zipIdx.foldl adjStep (vars.map mkV).toArray, cs := (cons.map mkC).toArray, bs := #[], list := #[],
    inactive := (List.range cons.length).toArray, err := false }

theorem init_eq (vars : List (Rat × Rat × Rat)) (cons : List (Nat × Nat × Rat)) :
    init vars cons = initBlocks (init0 vars cons) := rfl

theorem getD_modify (vs : Array V) (k i : Nat) (f : V → V) :
    (vs.modify k f).getD i default = if i = k ∧ k < vs.size then f (vs.getD i default) else vs.getD i default := by
  simp only [Array.getD_eq_getD_getElem?, Array.getElem?_modify]
  by_cases h : k = i
  · subst h
    by_cases hk : k < vs.size <;> simp [hk]
  · have h' : ¬ i = k := fun e => h e.symm
    simp [h, h']

theorem adjStep_size (vs : Array V) (p : (Nat × Nat × Rat) × Nat) : (adjStep vs p).size = vs.size := by
  simp [adjStep]

theorem adjStep_getD (vs : Array V) (p : (Nat × Nat × Rat) × Nat) (i : Nat) :
    (adjStep vs p).getD i default = { vs.getD i default with
      cOut := (vs.getD i default).cOut ++ (if i = p.1.1 ∧ p.1.1 < vs.size then [p.2] else []),
      cIn := (vs.getD i default).cIn ++ (if i = p.1.2.1 ∧ p.1.2.1 < vs.size then [p.2] else []) } := by
  unfold adjStep
  rw [getD_modify, getD_modify, Array.size_modify]
  split_ifs <;> simp

theorem adjFold_size (L : List ((Nat × Nat × Rat) × Nat)) (vs : Array V) : (L.foldl adjStep vs).size = vs.size :=
  foldl_inv (fun a : Array V => a.size = vs.size) adjStep L vs rfl (fun a p _ h => (adjStep_size a p).trans h)

/-- the fold of `adjStep` changes an entry only in its adjacency lists: it appends the indices of the constraints whose end is
the variable, in order -/
theorem adjFold_getD (L : List ((Nat × Nat × Rat) × Nat)) : ∀ (vs : Array V) (i : Nat),
    (L.foldl adjStep vs).getD i default = { vs.getD i default with
      cOut := (vs.getD i default).cOut ++ (L.filter (fun p => i = p.1.1 ∧ p.1.1 < vs.size)).map Prod.snd,
      cIn := (vs.getD i default).cIn ++ (L.filter (fun p => i = p.1.2.1 ∧ p.1.2.1 < vs.size)).map Prod.snd } := by
  induction L with
  | nil => intro vs i; simp
  | cons p xs ih =>
    intro vs i
    rw [List.foldl_cons, ih, adjStep_getD, adjStep_size]
    simp only [List.filter_cons, decide_eq_true_eq]
    split_ifs <;> simp

theorem getD_map_toArray {α β : Type} (f : α → β) (l : List α) (i : Nat) (d : β) :
    (l.map f).toArray.getD i d = if h : i < l.length then f l[i] else d := by
  by_cases h : i < l.length <;> simp [Array.getD_eq_getD_getElem?, h]

theorem baseV_get (vars : List (Rat × Rat × Rat)) (i : Nat) :
    ((vars.map mkV).toArray.getD i default).cOut = [] ∧ ((vars.map mkV).toArray.getD i default).cIn = [] ∧
    ∀ h : i < vars.length, (vars.map mkV).toArray.getD i default = mkV vars[i] := by
  rw [getD_map_toArray]
  split
  · exact ⟨rfl, rfl, fun _ => rfl⟩
  · next h => exact ⟨rfl, rfl, fun h' => absurd h' h⟩

theorem init0_adj (vars : List (Rat × Rat × Rat)) (cons : List (Nat × Nat × Rat)) (i : Nat) :
    (getV (init0 vars cons) i).cOut = (cons.zipIdx.filter (fun p => i = p.1.1 ∧ p.1.1 < vars.length)).map Prod.snd ∧
    (getV (init0 vars cons) i).cIn = (cons.zipIdx.filter (fun p => i = p.1.2.1 ∧ p.1.2.1 < vars.length)).map Prod.snd := by
  have hg : getV (init0 vars cons) i = _ := adjFold_getD cons.zipIdx (vars.map mkV).toArray i
  obtain ⟨b1, b2, _⟩ := baseV_get vars i
  rw [hg]
  dsimp only
  rw [b1, b2, List.nil_append, List.nil_append, List.size_toArray, List.length_map]
  exact ⟨rfl, rfl⟩

theorem mem_filter_zipIdx (cons : List (Nat × Nat × Rat)) (k : Nat × Nat × Rat → Nat) (i n ci : Nat) :
    ci ∈ (cons.zipIdx.filter (fun p => i = k p.1 ∧ k p.1 < n)).map Prod.snd ↔ (i < n ∧ ∃ h : ci < cons.length, k cons[ci] = i) := by
  simp only [List.mem_map, List.mem_filter, decide_eq_true_eq, List.mem_zipIdx_iff_getElem?]
  constructor
  · rintro ⟨p, ⟨hp, hk, hi⟩, rfl⟩
    obtain ⟨hlt, he⟩ := List.getElem?_eq_some_iff.1 hp
    exact ⟨hk ▸ hi, hlt, by rw [he]; exact hk.symm⟩
  · rintro ⟨hi, hlt, he⟩
    exact ⟨(cons[ci], ci), ⟨List.getElem?_eq_getElem hlt, he.symm, he ▸ hi⟩, rfl⟩

theorem init0_vs_size (vars : List (Rat × Rat × Rat)) (cons : List (Nat × Nat × Rat)) :
    (init0 vars cons).vs.size = vars.length := by
  unfold init0
  simp only
  rw [adjFold_size]
  simp

theorem init0_getV (vars : List (Rat × Rat × Rat)) (cons : List (Nat × Nat × Rat)) (i : Nat) :
    (∀ h : i < vars.length, (getV (init0 vars cons) i).d = vars[i].1 ∧ (getV (init0 vars cons) i).w = vars[i].2.1 ∧
      (getV (init0 vars cons) i).s = vars[i].2.2) ∧
    (∀ ci, ci ∈ (getV (init0 vars cons) i).cOut ↔ (i < vars.length ∧ ∃ h : ci < cons.length, cons[ci].1 = i)) ∧
    (∀ ci, ci ∈ (getV (init0 vars cons) i).cIn ↔ (i < vars.length ∧ ∃ h : ci < cons.length, cons[ci].2.1 = i)) := by
  obtain ⟨c1, c2⟩ := init0_adj vars cons i
  refine ⟨fun h => ?_, fun ci => ?_, fun ci => ?_⟩
  · have hg : getV (init0 vars cons) i = _ := adjFold_getD cons.zipIdx (vars.map mkV).toArray i
    rw [hg, (baseV_get vars i).2.2 h]
    exact ⟨rfl, rfl, rfl⟩
  · rw [c1]; exact mem_filter_zipIdx cons (fun c => c.1) i _ ci
  · rw [c2]; exact mem_filter_zipIdx cons (fun c => c.2.1) i _ ci

theorem nodup_filter_zipIdx (cons : List (Nat × Nat × Rat)) (q : (Nat × Nat × Rat) × Nat → Bool) :
    ((cons.zipIdx.filter q).map Prod.snd).Nodup :=
  List.Nodup.sublist (List.filter_sublist.map _) (by rw [List.zipIdx_map_snd]; exact List.nodup_range')

end FrameAux

theorem FrameAux.default_V_cOut : (default : V).cOut = [] := rfl
theorem FrameAux.default_V_cIn : (default : V).cIn = [] := rfl
theorem FrameAux.default_C_unsat : (default : C).unsat = false := rfl

namespace FrameAux

theorem init0_getC (vars : List (Rat × Rat × Rat)) (cons : List (Nat × Nat × Rat)) (ci : Nat) :
    (getC (init0 vars cons) ci).active = false ∧ (getC (init0 vars cons) ci).unsat = false ∧
    ∀ h : ci < cons.length, getC (init0 vars cons) ci = mkC cons[ci] := by
  unfold getC init0
  simp only
  rw [getD_map_toArray]
  split
  · exact ⟨rfl, rfl, fun _ => rfl⟩
  · next h => exact ⟨rfl, rfl, fun h' => absurd h' h⟩

/-! ## `init` : the blocks -/

/-- the body of the loop of `initBlocks` -/
def ibStep (st : St) (i : Nat) : St :=
  let r := newBlock st i
  let st := setB r.1 r.2 { getB r.1 r.2 with ind := i }
  { st with list := st.list.setIfInBounds i r.2 }

theorem initBlocks_eq (st : St) : initBlocks st =
    (List.range st.vs.size).reverse.foldl ibStep { st with bs := #[], list := Array.replicate st.vs.size 0 } := rfl

end FrameAux

def FrameAux.pushB (st : St) (x : B) : St := { st with bs := st.bs.push x }

@[simp] theorem FrameAux.pushB_vs (st : St) (x : B) : (pushB st x).vs = st.vs := rfl
@[simp] theorem FrameAux.pushB_cs (st : St) (x : B) : (pushB st x).cs = st.cs := rfl
@[simp] theorem FrameAux.pushB_list (st : St) (x : B) : (pushB st x).list = st.list := rfl
@[simp] theorem FrameAux.pushB_inactive (st : St) (x : B) : (pushB st x).inactive = st.inactive := rfl
@[simp] theorem FrameAux.pushB_err (st : St) (x : B) : (pushB st x).err = st.err := rfl
@[simp] theorem FrameAux.getV_pushB (st : St) (x : B) (j : Nat) : getV (pushB st x) j = getV st j := rfl
@[simp] theorem FrameAux.getC_pushB (st : St) (x : B) (j : Nat) : getC (pushB st x) j = getC st j := rfl

namespace FrameAux

/-- the state of the loop of `initBlocks` when the variables `k, …, n-1` have received their blocks -/
def IBInv (st0 : St) (n k : Nat) (st : St) : Prop :=
  st.vs.size = n ∧ st.cs = st0.cs ∧ st.inactive = st0.inactive ∧ st.err = st0.err ∧ st.bs.size = n - k ∧
  (∀ i, (getV st i).d = (getV st0 i).d ∧ (getV st i).w = (getV st0 i).w ∧ (getV st i).s = (getV st0 i).s ∧
    (getV st i).cOut = (getV st0 i).cOut ∧ (getV st i).cIn = (getV st0 i).cIn) ∧
  (∀ i, k ≤ i → i < n →
    (getV st i).block = n - 1 - i ∧ (getV st i).offset = 0 ∧ (getB st (n - 1 - i)).vars = [i])

theorem ibStep_vs (st : St) (i : Nat) : (ibStep st i).vs = (newBlock st i).1.vs := by
  simp only [ibStep, setB_vs]

theorem ibStep_getB_vars (st : St) (i j : Nat) : (getB (ibStep st i) j).vars = (getB (newBlock st i).1 j).vars := by
  unfold ibStep
  have : ∀ (s : St) (l : Array Nat), getB { s with list := l } j = getB s j := fun _ _ => rfl
  rw [this, getB_setB]
  split
  · next h => rw [h.1]
  · rfl

theorem ibStep_inv (st0 : St) (n k : Nat) (st : St) (hk : k + 1 ≤ n) (h : IBInv st0 n (k + 1) st) :
    IBInv st0 n k (ibStep st k) := by
  obtain ⟨h1, h2, h3, h4, h5, h6, h7⟩ := h
  have hV : ∀ j, getV (ibStep st k) j = if j = k then { getV st k with offset := 0, block := st.bs.size } else getV st j := by
    intro j
    unfold getV
    rw [ibStep_vs]
    exact newBlock_getV st k j (by omega)
  refine ⟨?_, ?_, ?_, ?_, ?_, fun i => ?_, fun i hki hin => ?_⟩
  · rw [ibStep_vs, newBlock_fst_vs_size]; exact h1
  · simpa only [ibStep, setB_cs, newBlock_fst_cs] using h2
  · simpa only [ibStep, setB_inactive, newBlock_fst_inactive] using h3
  · simpa only [ibStep, setB_err, newBlock_fst_err] using h4
  · simp only [ibStep, setB_bs_size, newBlock_fst_bs_size]; omega
  · rw [hV]
    split
    · next hik => rw [hik]; exact h6 k
    · exact h6 i
  · rw [hV, ibStep_getB_vars]
    by_cases hik : i = k
    · subst hik
      have e : n - 1 - i = st.bs.size := by omega
      rw [if_pos rfl, e, newBlock_vars]
      exact ⟨rfl, rfl, rfl⟩
    · rw [if_neg hik, newBlock_getB_ne _ _ _ (by omega)]
      exact h7 i (by omega) hin

theorem ibInv_start (st0 : St) :
    IBInv st0 st0.vs.size st0.vs.size { st0 with bs := #[], list := Array.replicate st0.vs.size 0 } := by
  refine ⟨rfl, rfl, rfl, rfl, by simp, fun i => ⟨rfl, rfl, rfl, rfl, rfl⟩, fun i h1 h2 => ?_⟩
  exact absurd h2 (Nat.not_lt.mpr h1)

/-- the loop of `initBlocks` keeps `IBInv`, and with it any `Q` that one pass keeps in the presence of `IBInv` -/
theorem ibFold (st0 : St) (n : Nat) (Q : Nat → St → Prop)
    (hQ : ∀ k st, k + 1 ≤ n → IBInv st0 n (k + 1) st → Q (k + 1) st → Q k (ibStep st k)) :
    ∀ k st, k ≤ n → IBInv st0 n k st → Q k st →
      IBInv st0 n 0 ((List.range k).reverse.foldl ibStep st) ∧ Q 0 ((List.range k).reverse.foldl ibStep st) := by
  intro k
  induction k with
  | zero => intro st _ h q; exact ⟨h, q⟩
  | succ k ih =>
    intro st hk h q
    rw [List.range_succ, List.reverse_append, List.reverse_singleton, List.singleton_append, List.foldl_cons]
    exact ih _ (Nat.le_of_succ_le hk) (ibStep_inv st0 n k st hk h) (hQ k st hk h q)

/-! ## `init` : assembling the invariant -/

theorem conn_of_no_active (st : St) (x : Option Nat) (h : ∀ ci, (getC st ci).active = false) (u v : Nat) :
    Conn st x u v ↔ u = v := by
  constructor
  · intro hc
    induction hc with
    | refl => rfl
    | tail _ hadj _ =>
      obtain ⟨ci, _, _, ha, _⟩ := hadj
      rw [h ci] at ha
      exact absurd ha Bool.false_ne_true
  · rintro rfl
    exact Relation.ReflTransGen.refl

/-- variable `i` of `n` gets block `n-1-i`, and back -/
theorem ib_index {n k b : Nat} (hb : b < n - k) : k ≤ n - 1 - b ∧ n - 1 - b < n ∧ n - 1 - (n - 1 - b) = b := by
  have hbn : b < n := Nat.lt_of_lt_of_le hb (Nat.sub_le _ _)
  refine ⟨Nat.le_sub_of_add_le (Nat.le_sub_one_of_lt ?_),
    Nat.lt_of_le_of_lt (Nat.sub_le _ _) (Nat.sub_lt (Nat.zero_lt_of_lt hbn) Nat.one_pos),
    Nat.sub_sub_self (Nat.le_sub_one_of_lt hbn)⟩
  rw [Nat.add_comm]
  exact Nat.add_lt_of_lt_sub hb

theorem ib_index_inj {n k b b' : Nat} (hb : b < n - k) (hb' : b' < n - k) (h : n - 1 - b = n - 1 - b') : b = b' := by
  have e := (ib_index hb).2.2
  rw [h] at e
  exact e.symm.trans (ib_index hb').2.2

theorem ib_index_ne {n k i : Nat} (hki : k ≤ i) (hin : i < n) (hik : i ≠ k) : k + 1 ≤ i ∧ n - 1 - i ≠ n - (k + 1) := by
  refine ⟨Nat.lt_of_le_of_ne hki (Ne.symm hik), fun e => hik ?_⟩
  rw [Nat.add_comm k 1, Nat.sub_add_eq] at e
  have hi : i ≤ n - 1 := Nat.le_sub_one_of_lt hin
  rw [← Nat.sub_sub_self hi, e, Nat.sub_sub_self (Nat.le_trans hki hi)]

theorem init_facts (vars : List (Rat × Rat × Rat)) (cons : List (Nat × Nat × Rat)) :
    (init vars cons).vs.size = vars.length ∧ (init vars cons).cs.size = cons.length ∧
    (∀ ci, getC (init vars cons) ci = getC (init0 vars cons) ci) ∧
    (init vars cons).inactive = (List.range cons.length).toArray ∧ (init vars cons).err = false ∧
    (init vars cons).bs.size = vars.length ∧
    (∀ i, (getV (init vars cons) i).d = (getV (init0 vars cons) i).d ∧
      (getV (init vars cons) i).w = (getV (init0 vars cons) i).w ∧
      (getV (init vars cons) i).s = (getV (init0 vars cons) i).s ∧
      (getV (init vars cons) i).cOut = (getV (init0 vars cons) i).cOut ∧
      (getV (init vars cons) i).cIn = (getV (init0 vars cons) i).cIn) ∧
    (∀ i, i < vars.length → (getV (init vars cons) i).block = vars.length - 1 - i ∧
      (getV (init vars cons) i).offset = 0 ∧ (getB (init vars cons) (vars.length - 1 - i)).vars = [i]) := by
  obtain ⟨h1, h2, h3, h4, h5, h6, h7⟩ := (ibFold (init0 vars cons) _ (fun _ _ => True) (fun _ _ _ _ _ => trivial) _ _
    (Nat.le_refl _) (ibInv_start _) trivial).1
  rw [← initBlocks_eq, ← init_eq, init0_vs_size] at h1 h5 h7
  rw [← initBlocks_eq, ← init_eq] at h2 h3 h4 h6
  refine ⟨h1, ?_, fun ci => ?_, h3, h4, h5, h6, fun i hi => h7 i (Nat.zero_le _) hi⟩
  · rw [h2]
    simp [init0]
  · unfold getC
    rw [h2]

end FrameAux

theorem init_err (vars : List (Rat × Rat × Rat)) (cons : List (Nat × Nat × Rat)) : (init vars cons).err = false :=
  (init_facts vars cons).2.2.2.2.1

theorem init_inv (vars : List (Rat × Rat × Rat)) (cons : List (Nat × Nat × Rat))
    (hidx : ∀ c ∈ cons, c.1 < vars.length ∧ c.2.1 < vars.length) (hs : ∀ v ∈ vars, v.2.2 ≠ 0) :
    Inv (init vars cons) ∧ Covered (init vars cons) none ∧ (init vars cons).err = false ∧
    (init vars cons).vs.size = vars.length ∧ (init vars cons).cs.size = cons.length ∧
    (∀ i (h : i < vars.length), (getV (init vars cons) i).d = vars[i].1 ∧ (getV (init vars cons) i).w = vars[i].2.1 ∧
      (getV (init vars cons) i).s = vars[i].2.2) ∧
    (∀ i (h : i < cons.length), (getC (init vars cons) i).l = cons[i].1 ∧ (getC (init vars cons) i).r = cons[i].2.1 ∧
      (getC (init vars cons) i).g = cons[i].2.2) := by
  obtain ⟨f1, f2, f3, f4, f5, f6, f7, f8⟩ := init_facts vars cons
  have hact : ∀ ci, (getC (init vars cons) ci).active = false := fun ci => by
    rw [f3]; exact (init0_getC vars cons ci).1
  have hno : ∀ ci, (getC (init vars cons) ci).active ≠ true := fun ci => by
    rw [hact ci]; exact Bool.false_ne_true
  have hC : ∀ ci (h : ci < cons.length), getC (init vars cons) ci = mkC cons[ci] := fun ci h => by
    rw [f3]; exact (init0_getC vars cons ci).2.2 h
  have hout : ∀ i ci, ci ∈ (getV (init vars cons) i).cOut ↔ (i < vars.length ∧ ∃ h : ci < cons.length, cons[ci].1 = i) :=
    fun i ci => by rw [(f7 i).2.2.2.1]; exact (init0_getV vars cons i).2.1 ci
  have hin : ∀ i ci, ci ∈ (getV (init vars cons) i).cIn ↔ (i < vars.length ∧ ∃ h : ci < cons.length, cons[ci].2.1 = i) :=
    fun i ci => by rw [(f7 i).2.2.2.2]; exact (init0_getV vars cons i).2.2 ci
  have hdata : ∀ i (h : i < vars.length), (getV (init vars cons) i).d = vars[i].1 ∧
      (getV (init vars cons) i).w = vars[i].2.1 ∧ (getV (init vars cons) i).s = vars[i].2.2 := fun i h => by
    rw [(f7 i).1, (f7 i).2.1, (f7 i).2.2.1]
    exact (init0_getV vars cons i).1 h
  refine ⟨⟨⟨?_, ?_, ?_, ?_, ?_, ?_, ?_, ?_⟩, ?_, ?_, ?_, ?_⟩, ?_, f5, f1, f2, hdata, ?_⟩
  · intro ci hci
    rw [f2] at hci
    rw [hC ci hci, f1]
    exact hidx _ (List.getElem_mem hci)
  · intro ci hci
    rw [f2] at hci
    rw [hout, hC ci hci]
    exact ⟨(hidx _ (List.getElem_mem hci)).1, hci, rfl⟩
  · intro ci hci
    rw [f2] at hci
    rw [hin, hC ci hci]
    exact ⟨(hidx _ (List.getElem_mem hci)).2, hci, rfl⟩
  · intro v _ ci hmem
    rw [hout] at hmem
    obtain ⟨_, hci, he⟩ := hmem
    rw [f2, hC ci hci]
    exact ⟨hci, he⟩
  · intro v _ ci hmem
    rw [hin] at hmem
    obtain ⟨_, hci, he⟩ := hmem
    rw [f2, hC ci hci]
    exact ⟨hci, he⟩
  · intro v hv
    rw [f1] at hv
    rw [(hdata v hv).2.2]
    exact hs _ (List.getElem_mem hv)
  · intro v hv
    rw [f1] at hv
    rw [(f8 v hv).1, f6]
    exact (ib_index (k := 0) hv).2.1
  · intro ci hmem
    rw [f4] at hmem
    rw [f2]
    simpa using hmem
  · exact fun ci _ ha => absurd ha (hno ci)
  · intro u v hu hv
    rw [f1] at hu hv
    rw [conn_of_no_active _ _ hact, (f8 u hu).1, (f8 v hv).1]
    exact ⟨ib_index_inj (k := 0) hu hv, fun e => e ▸ rfl⟩
  · exact fun ci _ ha => absurd ha (hno ci)
  · intro v hv u
    rw [f1] at hv
    rw [f1, (f8 v hv).1, (f8 v hv).2.2, List.mem_singleton]
    constructor
    · rintro rfl
      exact ⟨hv, (f8 u hv).1⟩
    · rintro ⟨hu, hb⟩
      rw [(f8 u hu).1] at hb
      exact ib_index_inj (k := 0) hu hv hb
  · intro ci hci _
    rw [f2] at hci
    refine Or.inr (Or.inr ?_)
    rw [f4]
    simpa using hci
  · intro i h
    rw [hC i h]
    exact ⟨rfl, rfl, rfl⟩

theorem init_varsNodup (vars : List (Rat × Rat × Rat)) (cons : List (Nat × Nat × Rat)) : VarsNodup (init vars cons) := by
  obtain ⟨f1, _, _, _, _, _, _, f8⟩ := init_facts vars cons
  intro v hv
  rw [f1] at hv
  rw [(f8 v hv).1, (f8 v hv).2.2]
  exact List.pairwise_singleton _ _

theorem init_adjNodup (vars : List (Rat × Rat × Rat)) (cons : List (Nat × Nat × Rat)) : AdjNodup (init vars cons) := by
  obtain ⟨_, _, _, _, _, _, f7, _⟩ := init_facts vars cons
  intro v _
  rw [(f7 v).2.2.2.1, (f7 v).2.2.2.2, (init0_adj vars cons v).1, (init0_adj vars cons v).2]
  exact ⟨nodup_filter_zipIdx cons _, nodup_filter_zipIdx cons _⟩

end Labella.Vpsc
