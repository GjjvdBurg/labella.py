import Labella.Proofs.VpscStats
/-! # The block list (`Blocks._list`): `insertBlock`, `removeBlock` and the `ind` fields

`IndOK st`: every listed block knows its own index.  This alone makes the list duplicate-free.  `insertBlock` appends a block,
`removeBlock` removes exactly the given block (the last element is swapped into its slot). -/
namespace Labella.Vpsc
open FrameAux (natArr_getD_setIfInBounds natArr_mem_toList_iff)

def IndOK (st : St) : Prop := ∀ k, k < st.list.size → (getB st (st.list.getD k 0)).ind = k

theorem IndOK.inj {st : St} (h : IndOK st) (i j : Nat) (hi : i < st.list.size) (hj : j < st.list.size)
    (e : st.list.getD i 0 = st.list.getD j 0) : i = j := by
  have a := h i hi
  have b := h j hj
  rw [e] at a
  exact a.symm.trans b

theorem natArr_getD_eq_getElem (a : Array Nat) (k : Nat) (h : k < a.size) : a.getD k 0 = a[k] := by
  simp [Array.getD_eq_getD_getElem?, h]

theorem natArr_nodup_of_inj (a : Array Nat)
    (h : ∀ i j, i < a.size → j < a.size → a.getD i 0 = a.getD j 0 → i = j) : a.toList.Nodup := by
  unfold List.Nodup
  rw [List.pairwise_iff_getElem]
  intro i j hi hj hij e
  have hi' : i < a.size := by simpa using hi
  have hj' : j < a.size := by simpa using hj
  have := h i j hi' hj' (by rw [natArr_getD_eq_getElem a _ hi', natArr_getD_eq_getElem a _ hj']; simpa using e)
  omega

theorem IndOK.nodup {st : St} (h : IndOK st) : st.list.toList.Nodup := natArr_nodup_of_inj _ h.inj

theorem ListInv.indOK {st : St} (h : ListInv st) : IndOK st := by
  intro k hk
  rw [natArr_getD_eq_getElem _ _ hk]
  exact h.ind k hk

theorem ListInv.mk' {st : St} (h : IndOK st) (hc : ∀ v, v < st.vs.size → (getV st v).block ∈ st.list.toList)
    (hu : ∀ b ∈ st.list.toList, ∃ v, v < st.vs.size ∧ (getV st v).block = b) : ListInv st := by
  refine ⟨h.nodup, hc, hu, fun k hk => ?_⟩
  rw [← natArr_getD_eq_getElem _ _ hk]
  exact h k hk

theorem natArr_getD_push (a : Array Nat) (x k : Nat) :
    (a.push x).getD k 0 = if k < a.size then a.getD k 0 else if k = a.size then x else 0 := by
  simp only [Array.getD_eq_getD_getElem?, Array.getElem?_push]
  by_cases h : k < a.size
  · have : ¬ k = a.size := by omega
    simp [h, this]
  · by_cases h2 : k = a.size
    · simp [h2]
    · simp [h, h2]

theorem natArr_getD_pop (a : Array Nat) (k : Nat) :
    a.pop.getD k 0 = if k < a.size - 1 then a.getD k 0 else 0 := by
  simp only [Array.getD_eq_getD_getElem?, Array.getElem?_pop]
  split <;> simp

theorem insertBlock_indOK (st : St) (b : Nat) (hb : b < st.bs.size) (hnb : b ∉ st.list.toList) (h : IndOK st) :
    IndOK (insertBlock st b) ∧ (∀ x, x ∈ (insertBlock st b).list.toList ↔ (x ∈ st.list.toList ∨ x = b)) := by
  have hl : (insertBlock st b).list = st.list.push b := rfl
  have hB : ∀ x, getB (insertBlock st b) x = if x = b then { getB st b with ind := st.list.size } else getB st x := by
    intro x
    show getB (setB st b { getB st b with ind := st.list.size }) x = _
    rw [getB_setB]
    by_cases hx : x = b
    · rw [if_pos ⟨hx, hb⟩, if_pos hx]
    · rw [if_neg (fun hh => hx hh.1), if_neg hx]
  constructor
  · intro k hk
    rw [hl, Array.size_push] at hk
    rw [hl, natArr_getD_push, hB]
    by_cases hk' : k < st.list.size
    · rw [if_pos hk']
      have hne : st.list.getD k 0 ≠ b := by
        intro e
        exact hnb ((natArr_mem_toList_iff _ _).2 ⟨k, hk', e⟩)
      rw [if_neg hne]
      exact h k hk'
    · have : k = st.list.size := by omega
      rw [if_neg hk', if_pos this, if_pos rfl]
      exact this.symm
  · intro x
    rw [hl]
    simp

theorem removeSet_list (st : St) (b : Nat) : (removeSet st b).list =
    if b ≠ st.list.getD (st.list.size - 1) 0 then
      st.list.setIfInBounds (getB st b).ind (st.list.getD (st.list.size - 1) 0) else st.list := by
  rw [removeSet_eq]
  by_cases h : b ≠ st.list.getD (st.list.size - 1) 0
  · rw [if_pos h, if_pos h]; rfl
  · rw [if_neg h, if_neg h]

theorem insertBlock_list (st : St) (b : Nat) : (insertBlock st b).list = st.list.push b := rfl

theorem removeSet_list_size (st : St) (b : Nat) : (removeSet st b).list.size = st.list.size := by
  rw [removeSet_list]
  split
  · exact Array.size_setIfInBounds
  · rfl

theorem removeSet_list_mem (st : St) (b x : Nat) (hx : x ∈ (removeSet st b).list.toList) : x ∈ st.list.toList := by
  rw [removeSet_list] at hx
  split at hx
  · rw [Array.toList_setIfInBounds] at hx
    rcases List.mem_or_eq_of_mem_set hx with h | h
    · exact h
    · have hpos : 0 < st.list.size := by
        rw [← Array.length_toList, ← List.length_set]
        exact List.length_pos_of_mem hx
      rw [h]
      exact (FrameAux.natArr_mem_toList_iff _ _).2 ⟨st.list.size - 1, Nat.sub_lt hpos Nat.one_pos, rfl⟩
  · exact hx

theorem removeBlock_list (st : St) (b : Nat) : (removeBlock st b).list =
    (if b ≠ st.list.getD (st.list.size - 1) 0 then
      st.list.setIfInBounds (getB st b).ind (st.list.getD (st.list.size - 1) 0) else st.list).pop := by
  rw [← removeSet_list]
  rfl

theorem removeBlock_getB (st : St) (b x : Nat) : getB (removeBlock st b) x =
    if b ≠ st.list.getD (st.list.size - 1) 0 then
      getB (setB st (st.list.getD (st.list.size - 1) 0)
        { getB st (st.list.getD (st.list.size - 1) 0) with ind := (getB st b).ind }) x
    else getB st x := by
  unfold removeBlock
  rw [removeSet_eq]
  by_cases h : b ≠ st.list.getD (st.list.size - 1) 0
  · rw [if_pos h, if_pos h]; rfl
  · rw [if_neg h, if_neg h]; rfl

/-- `Blocks.remove` of the block in slot `j`: the last block takes slot `j` (when `j` is the last slot this changes nothing),
then the list loses its last slot -/
theorem removeBlock_slots (st : St) (b j : Nat) (h : IndOK st) (hj : j < st.list.size) (ej : st.list.getD j 0 = b)
    (hlast : st.list.getD (st.list.size - 1) 0 < st.bs.size) :
    (removeBlock st b).list.size = st.list.size - 1 ∧
    (∀ k, k < st.list.size - 1 → (removeBlock st b).list.getD k 0 =
      if k = j then st.list.getD (st.list.size - 1) 0 else st.list.getD k 0) ∧
    (∀ x, (getB (removeBlock st b) x).ind = if x = st.list.getD (st.list.size - 1) 0 then j else (getB st x).ind) := by
  have hbi : (getB st b).ind = j := by rw [← ej]; exact h j hj
  by_cases hs : b = st.list.getD (st.list.size - 1) 0
  · have hjl : j = st.list.size - 1 := h.inj j (st.list.size - 1) hj (Nat.sub_lt (Nat.zero_lt_of_lt hj) Nat.one_pos) (ej.trans hs)
    rw [removeBlock_list, if_neg (not_not.2 hs)]
    refine ⟨Array.size_pop, fun k hk => ?_, fun x => ?_⟩
    · rw [natArr_getD_pop, if_pos hk, if_neg (hjl ▸ Nat.ne_of_lt hk)]
    · rw [removeBlock_getB, if_neg (not_not.2 hs)]
      split
      · next hx => rw [hx, ← hs, hbi]
      · rfl
  · rw [removeBlock_list, if_pos hs, hbi]
    refine ⟨by rw [Array.size_pop, Array.size_setIfInBounds], fun k hk => ?_, fun x => ?_⟩
    · rw [natArr_getD_pop, Array.size_setIfInBounds, if_pos hk, natArr_getD_setIfInBounds]
      by_cases hkj : k = j
      · rw [if_pos ⟨hkj, hj⟩, if_pos hkj]
      · rw [if_neg (fun hh => hkj hh.1), if_neg hkj]
    · rw [removeBlock_getB, if_pos hs, hbi, getB_setB]
      by_cases hx : x = st.list.getD (st.list.size - 1) 0
      · rw [if_pos ⟨hx, hlast⟩, if_pos hx]
      · rw [if_neg (fun hh => hx hh.1), if_neg hx]

theorem removeBlock_indOK (st : St) (b : Nat) (h : IndOK st) (hb : b ∈ st.list.toList)
    (hlt : ∀ x ∈ st.list.toList, x < st.bs.size) :
    IndOK (removeBlock st b) ∧ (∀ x, x ∈ (removeBlock st b).list.toList ↔ (x ∈ st.list.toList ∧ x ≠ b)) := by
  obtain ⟨j, hj, ej⟩ := (natArr_mem_toList_iff _ _).1 hb
  have hn : st.list.size - 1 < st.list.size := Nat.sub_lt (Nat.zero_lt_of_lt hj) Nat.one_pos
  have hlt' : ∀ {k}, k < st.list.size - 1 → k < st.list.size := fun hk => Nat.lt_trans hk hn
  obtain ⟨hsz, hget, hind⟩ := removeBlock_slots st b j h hj ej (hlt _ ((natArr_mem_toList_iff _ _).2 ⟨_, hn, rfl⟩))
  have hne : ∀ k, k < st.list.size - 1 → st.list.getD k 0 ≠ st.list.getD (st.list.size - 1) 0 := fun k hk e =>
    Nat.ne_of_lt hk (h.inj k _ (hlt' hk) hn e)
  constructor
  · intro k hk
    rw [hsz] at hk
    rw [hget k hk, hind]
    by_cases hkj : k = j
    · rw [if_pos hkj, if_pos rfl, hkj]
    · rw [if_neg hkj, if_neg (hne k hk)]
      exact h k (hlt' hk)
  · intro x
    rw [natArr_mem_toList_iff, natArr_mem_toList_iff, hsz]
    constructor
    · rintro ⟨k, hk, e⟩
      rw [hget k hk] at e
      by_cases hkj : k = j
      · rw [if_pos hkj] at e
        exact ⟨⟨_, hn, e⟩, fun e2 => hne j (hkj ▸ hk) (ej.trans (e2.symm.trans e.symm))⟩
      · rw [if_neg hkj] at e
        exact ⟨⟨k, hlt' hk, e⟩, fun e2 => hkj (h.inj k j (hlt' hk) hj (e.trans (e2.trans ej.symm)))⟩
    · rintro ⟨⟨k, hk, e⟩, hxb⟩
      have hkj : k ≠ j := fun hkj => hxb (e.symm.trans (hkj ▸ ej))
      by_cases hkl : k = st.list.size - 1
      · have hjl : j < st.list.size - 1 := Nat.lt_of_le_of_ne (Nat.le_sub_one_of_lt hj) (fun e => hkj (hkl.trans e.symm))
        exact ⟨j, hjl, by rw [hget j hjl, if_pos rfl, ← hkl]; exact e⟩
      · have hkl' : k < st.list.size - 1 := Nat.lt_of_le_of_ne (Nat.le_sub_one_of_lt hk) hkl
        exact ⟨k, hkl', by rw [hget k hkl', if_neg hkj]; exact e⟩

theorem removeBlock_listInv (st : St) (b : Nat) (hI : IndOK st) (hb : b ∈ st.list.toList)
    (hlt : ∀ x ∈ st.list.toList, x < st.bs.size)
    (hc : ∀ v, v < st.vs.size → (getV st v).block ∈ st.list.toList ∧ (getV st v).block ≠ b)
    (hu : ∀ x ∈ st.list.toList, x ≠ b → ∃ v, v < st.vs.size ∧ (getV st v).block = x) : ListInv (removeBlock st b) := by
  obtain ⟨h1, h2⟩ := removeBlock_indOK st b hI hb hlt
  have hE := removeBlock_statEq st b
  refine ListInv.mk' h1 ?_ ?_
  · intro v hv
    rw [hE.vs_eq] at hv
    rw [hE.getV, h2]
    exact hc v hv
  · intro x hx
    obtain ⟨hx1, hx2⟩ := (h2 x).1 hx
    obtain ⟨v, hv, e⟩ := hu x hx1 hx2
    exact ⟨v, by rw [hE.vs_eq]; exact hv, by rw [hE.getV]; exact e⟩

end Labella.Vpsc
