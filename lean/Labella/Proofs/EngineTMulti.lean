import Labella.Proofs.EngineTLemmas
/-! # Several engines alive at once, sharing list objects and node objects (`MWorld` of `Model/EngineT.lean`)

What every reachable multi-engine world satisfies, and hence: `computeT` of ANY engine of ANY reachable world starts from a good state. -/
namespace Labella.EngineT
open Labella Labella.Layout

structure MInv (w : MWorld) : Prop where
  len : w.lists.length = w.created.length
  good : ∀ (b : Nat) (c : List Nat), w.created[b]? = some c → GoodN w.store c
  /-- a list object now holds the nodes it was created with, possibly reordered (in-place sorts) -/
  perm : ∀ (b : Nat) (l c : List Nat), w.lists[b]? = some l → w.created[b]? = some c → l.Perm c
  data : ∀ (b : Nat) (c : List Nat), w.created[b]? = some c → ∀ i ∈ c, (get w.store i).data = i
  ref : ∀ e ∈ w.engines, ∀ b : Nat, e.ref = some b → b < w.lists.length
  cur : w.engines = [] ∨ w.cur < w.engines.length

theorem mem_modify {α : Type} (l : List α) (i : Nat) (f : α → α) (x : α) (hx : x ∈ l.modify i f) :
    x ∈ l ∨ ∃ y ∈ l, x = f y := by
  obtain ⟨j, hj⟩ := List.mem_iff_getElem?.1 hx
  rw [List.getElem?_modify] at hj
  cases hl : l[j]? with
  | none => rw [hl] at hj; cases hj
  | some y =>
    rw [hl] at hj
    simp only [Option.map_eq_map, Option.map_some, Option.some.injEq] at hj
    have hy : y ∈ l := List.mem_of_getElem? hl
    by_cases hij : i = j
    · rw [if_pos hij] at hj; exact Or.inr ⟨y, hy, hj.symm⟩
    · rw [if_neg hij] at hj; exact Or.inl (hj ▸ hy)

theorem cur_modify {α : Type} (l : List α) (c : Nat) (f : α → α) (h : l = [] ∨ c < l.length) :
    l.modify c f = [] ∨ c < (l.modify c f).length := by
  rcases h with h | h
  · left; subst h; cases c <;> rfl
  · right; rw [List.length_modify]; exact h

theorem getElem?_concat {α : Type} {l : List α} {a c : α} {b : Nat} (h : (l ++ [a])[b]? = some c) :
    l[b]? = some c ∨ (b = l.length ∧ c = a) := by
  rcases Nat.lt_or_ge b l.length with hb | hb
  · exact Or.inl (by rwa [List.getElem?_append_left hb] at h)
  · rw [List.getElem?_append_right hb] at h
    have hc := List.mem_of_getElem? h
    have hlt := (List.getElem?_eq_some_iff.1 h).1
    rw [List.length_singleton] at hlt
    exact Or.inr ⟨by omega, List.mem_singleton.1 hc⟩

theorem MWorld.engineAt_some (w : MWorld) (k : Nat) (e : MEngine) (he : w.engines[k]? = some e) :
    w.engineAt k = { opts := e.opts, nodes := (e.ref.bind (fun b => w.lists[b]?)).getD [], layers := e.layers } := by
  unfold MWorld.engineAt
  rw [he]

theorem MWorld.engineAt_none (w : MWorld) (k : Nat) (he : w.engines[k]? = none) :
    w.engineAt k = { opts := FOpts.default, nodes := [], layers := none } := by
  unfold MWorld.engineAt
  rw [he]

theorem MWorld.engineAt_nodes (w : MWorld) (k : Nat) :
    (w.engineAt k).nodes = [] ∨
      ∃ e b l, w.engines[k]? = some e ∧ e.ref = some b ∧ w.lists[b]? = some l ∧ (w.engineAt k).nodes = l := by
  cases he : w.engines[k]? with
  | none => left; rw [w.engineAt_none k he]
  | some e =>
    rw [w.engineAt_some k e he]
    cases hr : e.ref with
    | none => left; rfl
    | some b =>
      cases hl : w.lists[b]? with
      | none => left; simp only [Option.bind_some, hl, Option.getD_none]
      | some l => right; exact ⟨e, b, l, rfl, hr, hl, by simp only [Option.bind_some, hl, Option.getD_some]⟩

theorem MWorld.step_compute_some (w : MWorld) (e : MEngine) (he : w.engines[w.cur]? = some e) :
    w.step .compute =
      { w with
        store := (computeT (w.engineAt w.cur) w.store).2,
        lists := (match e.ref with
          | some b => w.lists.modify b (fun _ => (computeT (w.engineAt w.cur) w.store).1.nodes)
          | none => w.lists),
        engines := w.engines.modify w.cur (fun e => { e with layers := (computeT (w.engineAt w.cur) w.store).1.layers }),
        outs := w.outs ++ [(w.cur,
          (observe (computeT (w.engineAt w.cur) w.store).2 ((computeT (w.engineAt w.cur) w.store).1.layers.getD [])).map
            (fun l => l.map (fun x => { x with data := ((e.ref.bind (fun b => w.created[b]?)).getD []).idxOf x.data })))] } := by
  simp only [MWorld.step, he]
  rfl

/-! ### the invariant -/

theorem MInv.init : MInv MWorld.init where
  len := rfl
  good := by intro b c h; simp [MWorld.init] at h
  perm := by intro b l c h; simp [MWorld.init] at h
  data := by intro b c h; simp [MWorld.init] at h
  ref := by intro e he; simp [MWorld.init] at he
  cur := Or.inl rfl

theorem MInv.modify_engine {w : MWorld} (h : MInv w) (f : MEngine → MEngine)
    (hf : ∀ e b, (f e).ref = some b → e.ref = some b ∨ b < w.lists.length) :
    MInv { w with engines := w.engines.modify w.cur f } where
  len := h.len
  good := h.good
  perm := h.perm
  data := h.data
  ref := by
    intro e he b hb
    rcases mem_modify _ _ _ _ he with he | ⟨e', he', rfl⟩
    · exact h.ref e he b hb
    · exact (hf e' b hb).elim (h.ref e' he' b) id
  cur := cur_modify _ _ _ h.cur

theorem MInv.step_fresh {w : MWorld} (h : MInv w) (ls : List Label) : MInv (w.step (.freshNodes ls)) := by
  simp only [MWorld.step]
  split
  · exact h
  · obtain ⟨ga, gf, gd⟩ := freshNodes_fold ls (w.store, []) (GoodN.nil _) (fun _ hi => nomatch hi)
    have hlt : ∀ {α : Type} {l : List α} {b : Nat} {c : α}, l[b]? = some c → b < l.length := fun hb =>
      (List.getElem?_eq_some_iff.1 hb).1
    refine ⟨?_, ?_, ?_, ?_, ?_, cur_modify _ _ _ h.cur⟩
    · show (w.lists ++ [_]).length = (w.created ++ [_]).length
      rw [List.length_append, List.length_append, h.len]
    · intro b c hc
      rcases getElem?_concat hc with hc | ⟨-, rfl⟩
      · exact (h.good b c hc).frame gf
      · exact ga
    · -- the new list object and its record of creation sit at the same index
      intro b l c hl hc
      have hlen := h.len
      rcases getElem?_concat hc with hc | ⟨hb, rfl⟩ <;> rcases getElem?_concat hl with hl | ⟨hb', rfl⟩
      · exact h.perm b l c hl hc
      · have := hlt hc; omega
      · have := hlt hl; omega
      · exact List.Perm.refl _
    · intro b c hc i hi
      rcases getElem?_concat hc with hc | ⟨-, rfl⟩
      · exact (gf.data i ((h.good b c hc).lt i hi)).trans (h.data b c hc i hi)
      · exact gd i hi
    · intro e he b hb
      show b < (w.lists ++ [_]).length
      rw [List.length_append, List.length_singleton]
      rcases mem_modify _ _ _ _ he with he | ⟨e', _, rfl⟩
      · exact Nat.lt_succ_of_lt (h.ref e he b hb)
      · simp only [Option.some.injEq] at hb
        omega

theorem MInv.step_compute {w : MWorld} (h : MInv w) : MInv (w.step .compute) := by
  cases he : w.engines[w.cur]? with
  | none => simpa only [MWorld.step, he] using h
  | some e =>
    rw [w.step_compute_some e he]
    have hf := computeT_frame (w.engineAt w.cur) w.store
    have hn := (computeT_nodes (w.engineAt w.cur) w.store).1
    have hgood : ∀ (b : Nat) (c : List Nat), w.created[b]? = some c → GoodN (computeT (w.engineAt w.cur) w.store).2 c :=
      fun b c hc => (h.good b c hc).frame hf
    have hdata : ∀ (b : Nat) (c : List Nat), w.created[b]? = some c → ∀ i ∈ c,
        (get (computeT (w.engineAt w.cur) w.store).2 i).data = i :=
      fun b c hc i hi => (hf.data i ((h.good b c hc).lt i hi)).trans (h.data b c hc i hi)
    refine MInv.modify_engine (w := { w with store := _, lists := _, outs := _ }) ?_ _ (fun _ _ hb => Or.inl hb)
    cases hr : e.ref with
    | none => exact ⟨h.len, hgood, h.perm, hdata, h.ref, h.cur⟩
    | some b' =>
      refine ⟨(List.length_modify _ _ _).trans h.len, hgood, ?_, hdata,
        fun e' he' b hb => (List.length_modify _ _ _).symm ▸ h.ref e' he' b hb, h.cur⟩
      intro b l c hl hc
      change (w.lists.modify b' _)[b]? = some l at hl
      rw [List.getElem?_modify] at hl
      cases hl0 : w.lists[b]? with
      | none => rw [hl0] at hl; cases hl
      | some l0 =>
        rw [hl0] at hl
        simp only [Option.map_eq_map, Option.map_some] at hl
        by_cases hbb : b' = b
        · -- the list object the engine holds: its nodes as the layout left them
          subst hbb
          rw [if_pos rfl] at hl
          obtain rfl : (computeT (w.engineAt w.cur) w.store).1.nodes = l := Option.some.inj hl
          have : (w.engineAt w.cur).nodes = l0 := by
            rw [w.engineAt_some w.cur e he, hr]
            simp only [Option.bind_some, hl0, Option.getD_some]
          rw [this] at hn
          exact hn.trans (h.perm b' l0 c hl0 hc)
        · rw [if_neg hbb] at hl
          obtain rfl : l0 = l := Option.some.inj hl
          exact h.perm b l0 c hl0 hc

theorem MInv.step_setWidths {w : MWorld} (h : MInv w) (b : Nat) (ws : List Rat) : MInv (w.step (.setWidths b ws)) := by
  simp only [MWorld.step]
  cases hc : w.created[b]? with
  | none => exact h
  | some ids =>
    simp only
    have hsize := foldl_set_size Prod.fst (fun (p : Nat × Rat) n => { n with width := p.2 }) (ids.zip ws) w.store
    have hchild := foldl_set_field Prod.fst (fun (p : Nat × Rat) n => { n with width := p.2 }) N.child (fun _ _ => rfl)
      (ids.zip ws) w.store
    have hdata := foldl_set_field Prod.fst (fun (p : Nat × Rat) n => { n with width := p.2 }) N.data (fun _ _ => rfl)
      (ids.zip ws) w.store
    refine ⟨h.len, fun b' c hc' => ?_, h.perm, fun b' c hc' i hi => (hdata i).trans (h.data b' c hc' i hi), h.ref, h.cur⟩
    have g := h.good b' c hc'
    exact ⟨fun i hi => hsize ▸ g.lt i hi, g.nodup, fun i hi => (hchild i).trans (g.label i hi)⟩

theorem MInv.step {w : MWorld} (h : MInv w) (op : MOp) : MInv (w.step op) := by
  cases op with
  | newEngine o =>
    refine ⟨h.len, h.good, h.perm, h.data, ?_, ?_⟩
    · intro e he b hb
      change e ∈ w.engines ++ [_] at he
      rcases List.mem_append.1 he with he | he
      · exact h.ref e he b hb
      · simp only [List.mem_singleton] at he
        subst he
        cases hb
    · right
      show w.engines.length < (w.engines ++ [_]).length
      rw [List.length_append, List.length_singleton]
      exact Nat.lt_succ_self _
  | switch k =>
    simp only [MWorld.step]
    split
    · next hk => exact ⟨h.len, h.good, h.perm, h.data, h.ref, Or.inr hk⟩
    · exact h
  | setOptions o => exact h.modify_engine _ (fun _ _ hb => Or.inl hb)
  | freshNodes ls => exact h.step_fresh ls
  | useList b =>
    simp only [MWorld.step]
    split
    · next hb => exact h.modify_engine _ (fun _ _ hb' => Or.inr (Option.some.inj hb' ▸ hb))
    · exact h
  | compute => exact h.step_compute
  | setWidths b ws => exact h.step_setWidths b ws

theorem mworld_inv (ops : List MOp) : MInv (MWorld.run ops) :=
  foldl_invariant MInv MWorld.step (fun _ op h => h.step op) ops MWorld.init MInv.init

theorem MWorld.run_concat (ops : List MOp) (op : MOp) : MWorld.run (ops ++ [op]) = (MWorld.run ops).step op := by
  unfold MWorld.run
  rw [List.foldl_append]
  rfl

theorem MInv.engine_nodes {w : MWorld} (h : MInv w) (k : Nat) :
    (w.engineAt k).nodes = [] ∨
      ∃ e b c, w.engines[k]? = some e ∧ e.ref = some b ∧ w.created[b]? = some c ∧ (w.engineAt k).nodes.Perm c := by
  rcases w.engineAt_nodes k with h0 | ⟨e, b, l, he, hr, hl, hn⟩
  · exact Or.inl h0
  · right
    have hb : b < w.created.length := by
      rw [← h.len]
      by_contra hcon
      rw [List.getElem?_eq_none (Nat.le_of_not_lt hcon)] at hl
      cases hl
    refine ⟨e, b, w.created[b], he, hr, List.getElem?_eq_getElem hb, ?_⟩
    rw [hn]
    exact h.perm b l _ hl (List.getElem?_eq_getElem hb)

theorem MInv.nodes_sub_batch {w : MWorld} (h : MInv w) (k : Nat) (e : MEngine) (he : w.engines[k]? = some e) :
    ∀ i ∈ (w.engineAt k).nodes, i ∈ (e.ref.bind (fun b => w.created[b]?)).getD [] := by
  rcases h.engine_nodes k with h0 | ⟨e', b, c, he', hr, hc, hp⟩
  · rw [h0]; exact fun i hi => absurd hi List.not_mem_nil
  · obtain rfl : e = e' := Option.some.inj (he.symm.trans he')
    rw [hr, Option.bind_some, hc, Option.getD_some]
    exact fun i hi => hp.subset hi

theorem MInv.engine_good {w : MWorld} (h : MInv w) (k : Nat) : GoodN w.store (w.engineAt k).nodes := by
  rcases h.engine_nodes k with h0 | ⟨e, b, c, _, _, hc, hp⟩
  · rw [h0]; exact GoodN.nil _
  · exact (h.good b c hc).perm hp

theorem MInv.datas_eq {w : MWorld} (h : MInv w) (k : Nat) :
    (w.engineAt k).nodes.map (fun i => (get w.store i).data) = (w.engineAt k).nodes := by
  conv_rhs => rw [← List.map_id (w.engineAt k).nodes]
  apply List.map_congr_left
  intro i hi
  rcases h.engine_nodes k with h0 | ⟨e, b, c, _, _, hc, hp⟩
  · rw [h0] at hi; cases hi
  · exact h.data b c hc i (hp.subset hi)

theorem MInv.datas_nodup {w : MWorld} (h : MInv w) (k : Nat) :
    ((w.engineAt k).nodes.map (fun i => (get w.store i).data)).Nodup := by
  rw [h.datas_eq]; exact (h.engine_good k).nodup

theorem MWorld.step_compute (w : MWorld) (e : MEngine) (he : w.engines[w.cur]? = some e) :
    (w.step .compute).outs = w.outs ++ [(w.cur,
      (observe (computeT (w.engineAt w.cur) w.store).2 ((computeT (w.engineAt w.cur) w.store).1.layers.getD [])).map
        (fun l => l.map (fun x => { x with data := ((e.ref.bind (fun b => w.created[b]?)).getD []).idxOf x.data })))] ∧
    (w.step .compute).store = (computeT (w.engineAt w.cur) w.store).2 ∧
    ((w.step .compute).engineAt w.cur).layers = (computeT (w.engineAt w.cur) w.store).1.layers ∧
    ((w.step .compute).engineAt w.cur).nodes = (computeT (w.engineAt w.cur) w.store).1.nodes ∧
    ((w.step .compute).engineAt w.cur).opts = (w.engineAt w.cur).opts := by
  have hn := (computeT_nodes (w.engineAt w.cur) w.store).1
  have heng := w.engineAt_some w.cur e he
  have hstep := w.step_compute_some e he
  have he' : (w.step .compute).engines[w.cur]? =
      some { e with layers := (computeT (w.engineAt w.cur) w.store).1.layers } := by
    rw [hstep]
    simp only [List.getElem?_modify, he, Option.map_eq_map, Option.map_some, if_true]
  have heng' := (w.step .compute).engineAt_some w.cur _ he'
  refine ⟨by rw [hstep], by rw [hstep], by rw [heng'], ?_, by rw [heng', heng]⟩
  rw [heng']
  simp only
  rw [hstep]
  simp only
  cases hr : e.ref with
  | none =>
    have : (w.engineAt w.cur).nodes = [] := by rw [heng, hr]; rfl
    rw [this] at hn
    rw [List.perm_nil.1 hn]
    rfl
  | some b =>
    simp only [Option.bind_some, List.getElem?_modify, if_true]
    cases hl : w.lists[b]? with
    | some l => simp only [Option.map_eq_map, Option.map_some, Option.getD_some]
    | none =>
      have : (w.engineAt w.cur).nodes = [] := by
        rw [heng, hr]; simp only [Option.bind_some, hl, Option.getD_none]
      rw [this] at hn
      rw [List.perm_nil.1 hn]
      rfl

/-- as long as no engine exists nothing has been recorded (so a `compute` step that records nothing leaves no last observation at all) -/
theorem MWorld.outs_nil_of_no_engine (ops : List MOp) (h : (MWorld.run ops).engines = []) : (MWorld.run ops).outs = [] := by
  have hmod : ∀ (l : List MEngine) (c : Nat) (f : MEngine → MEngine), l.modify c f = [] → l = [] := fun l c f hl =>
    List.length_eq_zero_iff.1 (by rw [← List.length_modify f l c, hl]; rfl)
  refine foldl_invariant (fun w : MWorld => w.engines = [] → w.outs = []) MWorld.step ?_ ops MWorld.init (fun _ => rfl) h
  intro w op hw
  cases op with
  | newEngine o => exact fun hc => absurd hc (List.append_ne_nil_of_right_ne_nil _ (List.cons_ne_nil _ _))
  | switch k =>
    simp only [MWorld.step]
    split <;> exact hw
  | setOptions o => exact fun hc => hw (hmod _ _ _ hc)
  | freshNodes ls =>
    simp only [MWorld.step]
    split
    · exact hw
    · exact fun hc => hw (hmod _ _ _ hc)
  | useList b =>
    simp only [MWorld.step]
    split
    · exact fun hc => hw (hmod _ _ _ hc)
    · exact hw
  | compute =>
    simp only [MWorld.step]
    cases he : w.engines[w.cur]? with
    | none => exact hw
    | some e =>
      intro hc
      rw [hmod _ _ _ hc] at he
      cases he
  | setWidths b ws =>
    simp only [MWorld.step]
    cases w.created[b]? <;> exact hw

end Labella.EngineT
