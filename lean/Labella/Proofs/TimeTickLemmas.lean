import Labella.Proofs.CalendarLemmas
/-! What the millisecond and calendar ranges list, and that the loops of the time scale's `nice` only move outward and
stay on boundaries (C16, C14); a domain of one instant (C11). -/
namespace Labella.Calendar

-- decidable equality of tick methods (the model only derives `BEq`), for evaluating closed examples
deriving instance DecidableEq for Method

/-! ### millisecond range -/

theorem ceil_div_mul (t0 st : Int) (hst : 0 < st) :
    t0 ≤ ((t0 : Rat) / (st : Rat)).ceil * st ∧ ((t0 : Rat) / (st : Rat)).ceil * st < t0 + st := by
  have hstq : (0 : Rat) < (st : Rat) := by exact_mod_cast hst
  have key : ∀ y : Int, y < ((t0 : Rat) / (st : Rat)).ceil ↔ y * st < t0 := by
    intro y
    rw [Rat.lt_ceil_iff, Rat.lt_div_iff hstq, ← Rat.intCast_mul, Rat.intCast_lt_intCast]
  generalize ((t0 : Rat) / (st : Rat)).ceil = c at key
  have h1 := mt (key c).2 (Int.lt_irrefl c)
  have h2 := (key (c - 1)).1 (by omega)
  rw [Int.sub_mul] at h2
  omega

theorem lt_ceilDiv_iff (n k st : Int) (hst : 0 < st) : k < (n + st - 1) / st ↔ k * st < n := by
  rw [Int.lt_iff_add_one_le, Int.le_ediv_iff_mul_le hst, Int.add_mul, Int.one_mul]; omega

theorem mem_progression (t1 st a : Int) (hst : 0 < st) (x : Int) :
    x ∈ (if t1 ≤ a then [] else
        (List.range ((t1 - a + st - 1) / st).toNat).map (fun (k : Nat) => a + (k : Int) * st)) ↔
      (∃ k : Nat, x = a + k * st) ∧ x < t1 := by
  constructor
  · intro hx
    split at hx
    · nomatch hx
    · obtain ⟨k, hk, rfl⟩ := List.mem_map.1 hx
      have := (lt_ceilDiv_iff (t1 - a) k st hst).1 (Int.lt_toNat.1 (List.mem_range.1 hk))
      exact ⟨⟨k, rfl⟩, by omega⟩
  · rintro ⟨⟨k, rfl⟩, hlt⟩
    have h0 : 0 ≤ (k : Int) * st := Int.mul_nonneg (Int.natCast_nonneg k) (Int.le_of_lt hst)
    rw [if_neg (by omega)]
    exact List.mem_map.2
      ⟨k, List.mem_range.2 (Int.lt_toNat.2 ((lt_ceilDiv_iff (t1 - a) k st hst).2 (by omega))), rfl⟩

theorem multiples_from (t0 st c : Int) (hst : 0 < st) (h0 : t0 ≤ c * st) (h1 : c * st < t0 + st) (x : Int) :
    (∃ k : Nat, x = c * st + k * st) ↔ t0 ≤ x ∧ x % st = 0 := by
  constructor
  · rintro ⟨k, rfl⟩
    have : 0 ≤ (k : Int) * st := Int.mul_nonneg (Int.natCast_nonneg k) (Int.le_of_lt hst)
    exact ⟨by omega, by rw [← Int.add_mul]; exact Int.mul_emod_left _ _⟩
  · rintro ⟨hx, hm⟩
    obtain ⟨q, rfl⟩ := Int.dvd_of_emod_eq_zero hm
    have : (c - 1) * st < q * st := by rw [Int.sub_mul, Int.mul_comm q]; omega
    have := Int.lt_of_mul_lt_mul_right this (Int.le_of_lt hst)
    exact ⟨(q - c).toNat, by rw [Int.toNat_of_nonneg (by omega), ← Int.add_mul, Int.mul_comm]; congr 1; omega⟩

theorem msStep_pos (step : Rat) : 0 < (if step.floor < 1 then 1 else step.floor : Int) := by
  split <;> omega

theorem msRange_mem' (t0 t1 : Int) (step : Rat) (x : Int) :
    x ∈ msRange t0 t1 step ↔
      (t0 ≤ x ∧ x < t1 ∧ x % (if step.floor < 1 then 1 else step.floor) = 0) := by
  unfold msRange
  simp only
  have hst := msStep_pos step
  generalize (if step.floor < 1 then 1 else step.floor : Int) = st at hst
  obtain ⟨h0, h1⟩ := ceil_div_mul t0 st hst
  rw [mem_progression _ _ _ hst, multiples_from t0 st _ hst h0 h1]
  exact ⟨fun ⟨⟨a, c⟩, b⟩ => ⟨a, b, c⟩, fun ⟨a, b, c⟩ => ⟨⟨a, c⟩, b⟩⟩

theorem msRange_increasing' (t0 t1 : Int) (step : Rat) : strictlyIncreasingB (msRange t0 t1 step) = true := by
  unfold msRange
  simp only
  have hst := msStep_pos step
  generalize (if step.floor < 1 then 1 else step.floor : Int) = st at hst
  split
  · rfl
  · rw [sincr_iff_pairwise]
    refine List.Pairwise.map _ (fun j k hjk => ?_) List.pairwise_lt_range
    have := Int.mul_lt_mul_of_pos_right (Int.ofNat_lt.2 hjk) hst
    omega

/-! ### calendar range with a rational skip -/

theorem calRange_increasing (u : TUnit) (t0 t1 : Int) (skip : Rat) :
    strictlyIncreasingB (calRange u t0 t1 skip) = true := by
  unfold calRange
  split
  · exact rangeU_increasing _ _ _ _
  · exact sincr_filter _ (rangeU_increasing _ _ _ _)

theorem calRange_mem_boundary (u : TUnit) (t0 t1 : Int) (skip : Rat) (x : Int) (hx : x ∈ calRange u t0 t1 skip) :
    isBoundary u x = true ∧ t0 ≤ x ∧ x < t1 := by
  unfold calRange at hx
  split at hx
  · have := (rangeU_mem _ _ _ _ _).1 hx
    exact ⟨this.1, this.2.1, this.2.2.1⟩
  · have := (rangeU_mem _ _ _ _ _).1 (List.mem_filter.1 hx).1
    exact ⟨this.1, this.2.1, this.2.2.1⟩

theorem calRange_mem_int (u : TUnit) (t0 t1 : Int) (skip : Rat) (hs : skip.den = 1) (x : Int) :
    x ∈ calRange u t0 t1 skip ↔
      (isBoundary u x = true ∧ t0 ≤ x ∧ x < t1 ∧ (skip.num ≤ 1 ∨ numberU u x % skip.num = 0)) := by
  unfold calRange
  rw [if_pos hs]
  exact rangeU_mem _ _ _ _ _

/-! ### nice -/

theorem mFloor_le' (m : Method) (t : Int) : mFloor m t ≤ t := by
  cases m with
  | ms s => exact Int.le_refl _
  | cal u s => exact (floorU_spec u t).2.1

theorem le_mCeil' (m : Method) (t : Int) : t ≤ mCeil m t := by
  cases m with
  | ms s => exact Int.le_refl _
  | cal u s => exact (ceilU_spec u t).2.1

theorem niceFloor_ind (m : Method) {P : Int → Prop} (h : ∀ t, P t → P (mFloor m (t - 1))) :
    ∀ (fuel : Nat) (t : Int), P t → P (niceFloor m fuel t) := by
  intro fuel
  induction fuel with
  | zero => exact fun t ht => ht
  | succ f ih =>
    intro t ht
    unfold niceFloor
    split
    · exact ih _ (h t ht)
    · exact ht

theorem niceCeil_ind (m : Method) {P : Int → Prop} (h : ∀ t, P t → P (mCeil m (t + 1))) :
    ∀ (fuel : Nat) (t : Int), P t → P (niceCeil m fuel t) := by
  intro fuel
  induction fuel with
  | zero => exact fun t ht => ht
  | succ f ih =>
    intro t ht
    unfold niceCeil
    split
    · exact ih _ (h t ht)
    · exact ht

theorem niceFloor_le' (m : Method) : ∀ (fuel : Nat) (t : Int), niceFloor m fuel t ≤ t := fun fuel t =>
  niceFloor_ind m (P := (· ≤ t)) (fun s hs => by have := mFloor_le' m (s - 1); omega) fuel t (Int.le_refl t)

theorem le_niceCeil' (m : Method) : ∀ (fuel : Nat) (t : Int), t ≤ niceCeil m fuel t := fun fuel t =>
  niceCeil_ind m (P := (t ≤ ·)) (fun s hs => by have := le_mCeil' m (s + 1); omega) fuel t (Int.le_refl t)

theorem niceFloor_boundary (u : TUnit) (s : Rat) : ∀ (fuel : Nat) (t : Int), isBoundary u t = true →
    isBoundary u (niceFloor (.cal u s) fuel t) = true :=
  niceFloor_ind (.cal u s) (P := fun t => isBoundary u t = true) (fun t _ => (floorU_spec u (t - 1)).1)

theorem niceCeil_boundary (u : TUnit) (s : Rat) : ∀ (fuel : Nat) (t : Int), isBoundary u t = true →
    isBoundary u (niceCeil (.cal u s) fuel t) = true :=
  niceCeil_ind (.cal u s) (P := fun t => isBoundary u t = true) (fun t _ => (ceilU_spec u (t + 1)).1)

/-- the un-oriented result of `nice`: both ends moved outward -/
def niceRaw (e0 e1 : Int) (m : Method) : Int × Int :=
  if 1 < mSkip m then
    (niceFloor m ((mSkip m).ceil.toNat + 2) (mFloor m e0), niceCeil m ((mSkip m).ceil.toNat + 2) (mCeil m e1))
  else (mFloor m e0, mCeil m e1)

theorem nice_eq (d0 d1 : Int) (count : Rat) :
    nice d0 d1 count =
      if d1 < d0 then ((niceRaw (min d0 d1) (max d0 d1) (tickMethod (min d0 d1) (max d0 d1) count)).2,
                       (niceRaw (min d0 d1) (max d0 d1) (tickMethod (min d0 d1) (max d0 d1) count)).1)
      else niceRaw (min d0 d1) (max d0 d1) (tickMethod (min d0 d1) (max d0 d1) count) := rfl

theorem niceRaw_widens (e0 e1 : Int) (m : Method) : (niceRaw e0 e1 m).1 ≤ e0 ∧ e1 ≤ (niceRaw e0 e1 m).2 := by
  unfold niceRaw
  split
  · exact ⟨Int.le_trans (niceFloor_le' m _ _) (mFloor_le' m e0), Int.le_trans (le_mCeil' m e1) (le_niceCeil' m _ _)⟩
  · exact ⟨mFloor_le' m e0, le_mCeil' m e1⟩

theorem niceRaw_boundary (e0 e1 : Int) (u : TUnit) (s : Rat) :
    isBoundary u (niceRaw e0 e1 (.cal u s)).1 = true ∧ isBoundary u (niceRaw e0 e1 (.cal u s)).2 = true := by
  unfold niceRaw
  split
  · exact ⟨niceFloor_boundary u s _ _ (floorU_spec u e0).1, niceCeil_boundary u s _ _ (ceilU_spec u e1).1⟩
  · exact ⟨(floorU_spec u e0).1, (ceilU_spec u e1).1⟩

/-! ### a domain of one instant -/

theorem linStep_self (d m : Rat) : linStep d d m = 0 := by
  simp [linStep, Scale.tickRange, Scale.extent, Rat.sub_self]

theorem bisectRight_steps_zero : bisectRight Gen.timeScaleSteps 0 = 0 := by
  unfold bisectRight Gen.timeScaleSteps
  rw [List.takeWhile_cons]
  have : ¬ ((1000 : Rat) ≤ 0) := by decide
  simp [this]

theorem tickMethod_self (t : Int) (m : Rat) : tickMethod t t m = .ms 0 := by
  unfold tickMethod
  have h0 : (((t - t : Int) : Rat) / m) = 0 := by
    rw [Int.sub_self, Rat.div_def, Rat.intCast_zero, Rat.zero_mul]
  simp only [h0, bisectRight_steps_zero, linStep_self]
  rfl

theorem msRange_single (t : Int) : msRange t (t + 1) 1 = [t] := by
  unfold msRange
  have hf : (1 : Rat).floor = 1 := by decide
  simp only [hf]
  obtain ⟨h0, h1⟩ := ceil_div_mul t 1 (by omega)
  have hc : ((t : Rat) / ((1 : Int) : Rat)).ceil = t := by omega
  have hc' : ((t : Rat) / 1).ceil = t := by simpa using hc
  have e : (t + 1 - t).toNat = 1 := by omega
  simp [hc', e]
  omega

theorem ticks_degenerate (t : Int) (m : Rat) : ticks t t m = [t] := by
  unfold ticks
  simp only [Int.min_self, Int.max_self, tickMethod_self]
  have : effSkip 0 = 1 := by decide
  rw [this]
  exact msRange_single t

theorem nice_degenerate (t : Int) (m : Rat) : nice t t m = (t, t) := by
  unfold nice
  simp only [Int.min_self, Int.max_self, tickMethod_self]
  have : ¬ ((1 : Rat) < 0) := by decide
  simp [mSkip, mFloor, mCeil, this]

end Labella.Calendar
