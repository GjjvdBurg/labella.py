import Labella.Proofs.VpscInv
/-! Store access lemmas for the solver state (also through `addVariable` / `newBlock`); reflexivity / transitivity of `Frame` and
`CoreEq`; elementary facts about `Adj` / `Conn`; transfer of `WF` / `Inv` between states with the same problem data. -/
namespace Labella.Vpsc

@[simp] theorem setV_vs_size (st : St) (i : Nat) (v : V) : (setV st i v).vs.size = st.vs.size := by simp [setV]
@[simp] theorem setV_cs (st : St) (i : Nat) (v : V) : (setV st i v).cs = st.cs := rfl
@[simp] theorem setV_bs (st : St) (i : Nat) (v : V) : (setV st i v).bs = st.bs := rfl
@[simp] theorem setV_list (st : St) (i : Nat) (v : V) : (setV st i v).list = st.list := rfl
@[simp] theorem setV_inactive (st : St) (i : Nat) (v : V) : (setV st i v).inactive = st.inactive := rfl
@[simp] theorem setV_err (st : St) (i : Nat) (v : V) : (setV st i v).err = st.err := rfl
@[simp] theorem setC_cs_size (st : St) (i : Nat) (c : C) : (setC st i c).cs.size = st.cs.size := by simp [setC]
@[simp] theorem setC_vs (st : St) (i : Nat) (c : C) : (setC st i c).vs = st.vs := rfl
@[simp] theorem setC_bs (st : St) (i : Nat) (c : C) : (setC st i c).bs = st.bs := rfl
@[simp] theorem setC_list (st : St) (i : Nat) (c : C) : (setC st i c).list = st.list := rfl
@[simp] theorem setC_inactive (st : St) (i : Nat) (c : C) : (setC st i c).inactive = st.inactive := rfl
@[simp] theorem setC_err (st : St) (i : Nat) (c : C) : (setC st i c).err = st.err := rfl
@[simp] theorem setB_bs_size (st : St) (i : Nat) (b : B) : (setB st i b).bs.size = st.bs.size := by simp [setB]
@[simp] theorem setB_vs (st : St) (i : Nat) (b : B) : (setB st i b).vs = st.vs := rfl
@[simp] theorem setB_cs (st : St) (i : Nat) (b : B) : (setB st i b).cs = st.cs := rfl
@[simp] theorem setB_list (st : St) (i : Nat) (b : B) : (setB st i b).list = st.list := rfl
@[simp] theorem setB_inactive (st : St) (i : Nat) (b : B) : (setB st i b).inactive = st.inactive := rfl
@[simp] theorem setB_err (st : St) (i : Nat) (b : B) : (setB st i b).err = st.err := rfl

theorem getD_setIfInBounds {α : Type} (a : Array α) (i j : Nat) (x d : α) :
    (a.setIfInBounds i x).getD j d = if j = i ∧ i < a.size then x else a.getD j d := by
  simp only [Array.getD_eq_getD_getElem?, Array.getElem?_setIfInBounds]
  by_cases h : j = i
  · subst h
    by_cases hi : j < a.size <;> simp [hi]
  · have h' : ¬ i = j := fun e => h e.symm
    simp [h, h']

theorem getV_setV (st : St) (i j : Nat) (v : V) :
    getV (setV st i v) j = if j = i ∧ i < st.vs.size then v else getV st j :=
  getD_setIfInBounds ..

theorem getC_setC (st : St) (i j : Nat) (c : C) :
    getC (setC st i c) j = if j = i ∧ i < st.cs.size then c else getC st j :=
  getD_setIfInBounds ..

theorem getB_setB (st : St) (i j : Nat) (b : B) :
    getB (setB st i b) j = if j = i ∧ i < st.bs.size then b else getB st j :=
  getD_setIfInBounds ..

@[simp] theorem getC_setV (st : St) (i j : Nat) (v : V) : getC (setV st i v) j = getC st j := rfl
@[simp] theorem getB_setV (st : St) (i j : Nat) (v : V) : getB (setV st i v) j = getB st j := rfl
@[simp] theorem getV_setC (st : St) (i j : Nat) (c : C) : getV (setC st i c) j = getV st j := rfl
@[simp] theorem getB_setC (st : St) (i j : Nat) (c : C) : getB (setC st i c) j = getB st j := rfl
@[simp] theorem getV_setB (st : St) (i j : Nat) (b : B) : getV (setB st i b) j = getV st j := rfl
@[simp] theorem getC_setB (st : St) (i j : Nat) (b : B) : getC (setB st i b) j = getC st j := rfl

theorem getV_congr {s s' : St} (h : s'.vs = s.vs) (i : Nat) : getV s' i = getV s i := by unfold getV; rw [h]

theorem getC_congr {s s' : St} (h : s'.cs = s.cs) (i : Nat) : getC s' i = getC s i := by unfold getC; rw [h]

theorem getB_congr {s s' : St} (h : s'.bs = s.bs) (i : Nat) : getB s' i = getB s i := by unfold getB; rw [h]

theorem getB_ge (st : St) (b : Nat) (h : st.bs.size ≤ b) : getB st b = default := by
  unfold getB
  simp [Array.getD, Nat.not_lt.2 h]

theorem lt_of_vars_ne_nil {st : St} {b : Nat} (h : (getB st b).vars ≠ []) : b < st.bs.size :=
  Nat.lt_of_not_le fun hn => h (by rw [getB_ge st b hn]; rfl)

theorem B_eq_of_fields {x y : B} (h1 : x.vars = y.vars) (h2 : x.scale = y.scale) (h3 : x.AB = y.AB) (h4 : x.AD = y.AD)
    (h5 : x.A2 = y.A2) (h6 : x.posn = y.posn) (h7 : x.ind = y.ind) : x = y := by
  cases x; cases y
  simp only at h1 h2 h3 h4 h5 h6 h7
  subst h1 h2 h3 h4 h5 h6 h7
  rfl

theorem setB_self (st : St) (b : Nat) : setB st b (getB st b) = st := by
  unfold setB getB
  have : st.bs.setIfInBounds b (st.bs.getD b default) = st.bs := by
    apply Array.ext
    · simp
    · intro j h1 h2
      rw [Array.getElem_setIfInBounds]
      split
      · next h => subst h; simp [Array.getD, h2]
      · rfl
  rw [this]

theorem getB_push (st : St) (x : B) (j : Nat) :
    getB { st with bs := st.bs.push x } j = if j = st.bs.size then x else getB st j := by
  unfold getB
  simp only [Array.getD_eq_getD_getElem?, Array.getElem?_push]
  by_cases h : j = st.bs.size <;> simp [h]

/-! `addVariable` and `newBlock` (all other fields are left alone by definitional unfolding) -/

@[simp] theorem addVariable_vs_size (st : St) (b i : Nat) : (addVariable st b i).vs.size = st.vs.size := by
  simp [addVariable]
@[simp] theorem addVariable_bs_size (st : St) (b i : Nat) : (addVariable st b i).bs.size = st.bs.size := by
  simp [addVariable]
@[simp] theorem addVariable_cs (st : St) (b i : Nat) : (addVariable st b i).cs = st.cs := rfl
@[simp] theorem addVariable_list (st : St) (b i : Nat) : (addVariable st b i).list = st.list := rfl
@[simp] theorem addVariable_inactive (st : St) (b i : Nat) : (addVariable st b i).inactive = st.inactive := rfl

theorem getV_addVariable (st : St) (b i j : Nat) : getV (addVariable st b i) j =
    if j = i ∧ i < st.vs.size then { getV st i with block := b } else getV st j := by
  simp only [addVariable, getV_setB, getV_setV]

theorem getB_addVariable_ne (st : St) (b i j : Nat) (h : j ≠ b) : getB (addVariable st b i) j = getB st j := by
  simp only [addVariable, getB_setB, getB_setV]
  rw [if_neg (fun hh => h hh.1)]

theorem getB_addVariable_vars (st : St) (b i : Nat) (h : b < st.bs.size) :
    (getB (addVariable st b i) b).vars = (getB st b).vars ++ [i] := by
  simp only [addVariable, getB_setB, getB_setV, setV_bs]
  rw [if_pos ⟨trivial, h⟩]
  rfl

@[simp] theorem newBlock_fst_vs_size (st : St) (i : Nat) : (newBlock st i).1.vs.size = st.vs.size := by
  simp [newBlock]
@[simp] theorem newBlock_fst_bs_size (st : St) (i : Nat) : (newBlock st i).1.bs.size = st.bs.size + 1 := by
  simp [newBlock]
@[simp] theorem newBlock_fst_cs (st : St) (i : Nat) : (newBlock st i).1.cs = st.cs := rfl
@[simp] theorem newBlock_fst_list (st : St) (i : Nat) : (newBlock st i).1.list = st.list := rfl
@[simp] theorem newBlock_fst_inactive (st : St) (i : Nat) : (newBlock st i).1.inactive = st.inactive := rfl
@[simp] theorem newBlock_fst_err (st : St) (i : Nat) : (newBlock st i).1.err = st.err := rfl

theorem newBlock_getV (s : St) (i u : Nat) (hi : i < s.vs.size) : getV (newBlock s i).1 u =
    if u = i then { getV s i with offset := 0, block := s.bs.size } else getV s u := by
  simp only [newBlock, getV_addVariable]
  by_cases h : u = i
  · subst h; simp [getV, setV, hi]
  · rw [if_neg (fun hh => h hh.1), if_neg h]; exact (getV_setV ..).trans (if_neg (fun hh => h hh.1))

theorem newBlock_getB_ne (s : St) (i b' : Nat) (h : b' ≠ s.bs.size) : getB (newBlock s i).1 b' = getB s b' := by
  simp only [newBlock]
  rw [getB_addVariable_ne _ _ _ _ h, getB_push, setV_bs, if_neg h, getB_setV]

theorem newBlock_vars (s : St) (i : Nat) : (getB (newBlock s i).1 s.bs.size).vars = [i] := by
  simp only [newBlock]
  rw [getB_addVariable_vars _ _ _ (by simp), getB_push, setV_bs, if_pos rfl]
  rfl

theorem FrameAux.foldl_inv {α β : Type} (P : α → Prop) (step : α → β → α) (l : List β) (acc : α) (h0 : P acc)
    (hstep : ∀ acc x, x ∈ l → P acc → P (step acc x)) : P (l.foldl step acc) := by
  induction l generalizing acc with
  | nil => exact h0
  | cons x xs ih =>
    rw [List.foldl_cons]
    exact ih _ (hstep _ _ (List.mem_cons_self) h0) (fun a y hy => hstep a y (List.mem_cons_of_mem _ hy))

theorem err_false_of_imp {a b : St} (h : a.err = true → b.err = true) (hb : b.err = false) : a.err = false := by
  cases ha : a.err with
  | false => rfl
  | true => rw [h ha] at hb; cases hb

theorem Frame.refl (st : St) : Frame st st :=
  ⟨rfl, rfl, Nat.le_refl _, fun _ => ⟨rfl, rfl, rfl, rfl, rfl⟩, fun _ => ⟨rfl, rfl, rfl⟩, id⟩

theorem Frame.trans {a b c : St} (h1 : Frame a b) (h2 : Frame b c) : Frame a c where
  vsize := h2.vsize.trans h1.vsize
  csize := h2.csize.trans h1.csize
  bsize := Nat.le_trans h1.bsize h2.bsize
  vstat := fun i => by
    obtain ⟨a1, a2, a3, a4, a5⟩ := h1.vstat i
    obtain ⟨b1, b2, b3, b4, b5⟩ := h2.vstat i
    exact ⟨b1.trans a1, b2.trans a2, b3.trans a3, b4.trans a4, b5.trans a5⟩
  cstat := fun i => by
    obtain ⟨a1, a2, a3⟩ := h1.cstat i
    obtain ⟨b1, b2, b3⟩ := h2.cstat i
    exact ⟨b1.trans a1, b2.trans a2, b3.trans a3⟩
  errmono := fun h => h2.errmono (h1.errmono h)

theorem CoreEq.refl (st : St) : CoreEq st st :=
  { toFrame := Frame.refl st, vs_eq := rfl, inactive_eq := rfl, flags := fun _ => ⟨rfl, rfl⟩, bvars := fun _ => rfl }

theorem CoreEq.trans {a b c : St} (h1 : CoreEq a b) (h2 : CoreEq b c) : CoreEq a c :=
  { toFrame := h1.toFrame.trans h2.toFrame
    vs_eq := h2.vs_eq.trans h1.vs_eq
    inactive_eq := h2.inactive_eq.trans h1.inactive_eq
    flags := fun i => ⟨(h2.flags i).1.trans (h1.flags i).1, (h2.flags i).2.trans (h1.flags i).2⟩
    bvars := fun b => (h2.bvars b).trans (h1.bvars b) }

/-! `Adj` and `Conn` -/

theorem Adj.congr {st st' : St} (hcs : st'.cs.size = st.cs.size) (hl : ∀ i, (getC st' i).l = (getC st i).l)
    (hr : ∀ i, (getC st' i).r = (getC st i).r) (ha : ∀ i, (getC st' i).active = (getC st i).active) (x : Option Nat) :
    Adj st' x = Adj st x := by
  funext u w
  simp only [Adj, hcs, hl, hr, ha]

theorem Conn.congr {st st' : St} (hcs : st'.cs.size = st.cs.size) (hl : ∀ i, (getC st' i).l = (getC st i).l)
    (hr : ∀ i, (getC st' i).r = (getC st i).r) (ha : ∀ i, (getC st' i).active = (getC st i).active) (x : Option Nat) :
    Conn st' x = Conn st x := by
  unfold Conn
  rw [Adj.congr hcs hl hr ha]

theorem Adj.symmS {st : St} {x : Option Nat} {u v : Nat} (h : Adj st x u v) : Adj st x v u := by
  obtain ⟨c, hc, hx, ha, h⟩ := h
  exact ⟨c, hc, hx, ha, h.symm⟩

theorem Conn.symmS {st : St} {x : Option Nat} {u v : Nat} (h : Conn st x u v) : Conn st x v u := by
  induction h with
  | refl => exact Relation.ReflTransGen.refl
  | tail _ hyz ih => exact Relation.ReflTransGen.head hyz.symmS ih

theorem Conn.transS {st : St} {x : Option Nat} {u v w : Nat} (h1 : Conn st x u v) (h2 : Conn st x v w) :
    Conn st x u w := Relation.ReflTransGen.trans h1 h2

theorem Conn.reflS (st : St) (x : Option Nat) (u : Nat) : Conn st x u u := Relation.ReflTransGen.refl

theorem Adj.connS {st : St} {x : Option Nat} {u v : Nat} (h : Adj st x u v) : Conn st x u v :=
  Relation.ReflTransGen.single h

theorem Adj.of_active {st : St} {c : Nat} (hc : c < st.cs.size) (ha : (getC st c).active = true) :
    Adj st none (getC st c).l (getC st c).r := ⟨c, hc, by simp, ha, Or.inl ⟨rfl, rfl⟩⟩

theorem same_block_of_active {st : St} (hinv : Inv st) {c : Nat} (hc : c < st.cs.size) (ha : (getC st c).active = true) :
    (getV st (getC st c).l).block = (getV st (getC st c).r).block :=
  (hinv.comps _ _ (hinv.wf.lr c hc).1 (hinv.wf.lr c hc).2).2 (Adj.of_active hc ha).connS

theorem Adj.to_noneS {st : St} {x : Option Nat} {u v : Nat} (h : Adj st x u v) : Adj st none u v := by
  obtain ⟨c, hc, _, ha, h⟩ := h
  exact ⟨c, hc, by simp, ha, h⟩

theorem Conn.to_noneS {st : St} {x : Option Nat} {u v : Nat} (h : Conn st x u v) : Conn st none u v := by
  induction h with
  | refl => exact Relation.ReflTransGen.refl
  | tail _ hyz ih => exact Relation.ReflTransGen.tail ih hyz.to_noneS

/-! What depends on the state only through the problem data, the `active` flags and the membership lists -/

/-- the part of `WF` that concerns the constraint graph -/
structure WFd (st : St) : Prop where
  lr : ∀ ci, ci < st.cs.size → (getC st ci).l < st.vs.size ∧ (getC st ci).r < st.vs.size
  out_mem : ∀ ci, ci < st.cs.size → ci ∈ (getV st (getC st ci).l).cOut
  in_mem : ∀ ci, ci < st.cs.size → ci ∈ (getV st (getC st ci).r).cIn
  out_sound : ∀ v, v < st.vs.size → ∀ ci ∈ (getV st v).cOut, ci < st.cs.size ∧ (getC st ci).l = v
  in_sound : ∀ v, v < st.vs.size → ∀ ci ∈ (getV st v).cIn, ci < st.cs.size ∧ (getC st ci).r = v

theorem WF.toWFd {st : St} (h : WF st) : WFd st := ⟨h.lr, h.out_mem, h.in_mem, h.out_sound, h.in_sound⟩

theorem WFd.of_data {st st' : St} (hvs : st'.vs.size = st.vs.size) (hcs : st'.cs.size = st.cs.size)
    (ho : ∀ i, (getV st' i).cOut = (getV st i).cOut) (hn : ∀ i, (getV st' i).cIn = (getV st i).cIn)
    (hl : ∀ i, (getC st' i).l = (getC st i).l) (hr : ∀ i, (getC st' i).r = (getC st i).r) (hw : WFd st) : WFd st' := by
  refine ⟨?_, ?_, ?_, ?_, ?_⟩
  · simpa only [hvs, hcs, hl, hr] using hw.lr
  · simpa only [hcs, hl, ho] using hw.out_mem
  · simpa only [hcs, hr, hn] using hw.in_mem
  · simpa only [hvs, hcs, hl, ho] using hw.out_sound
  · simpa only [hvs, hcs, hr, hn] using hw.in_sound

theorem WF.of_data {st st' : St} (hvs : st'.vs.size = st.vs.size) (hcs : st'.cs.size = st.cs.size)
    (hv : ∀ i, (getV st' i).s = (getV st i).s ∧ (getV st' i).cOut = (getV st i).cOut ∧ (getV st' i).cIn = (getV st i).cIn)
    (hc : ∀ i, (getC st' i).l = (getC st i).l ∧ (getC st' i).r = (getC st i).r)
    (hw : WF st) (hb : ∀ v, v < st.vs.size → (getV st' v).block < st'.bs.size)
    (hi : ∀ ci ∈ st'.inactive.toList, ci < st.cs.size) : WF st' := by
  have d := WFd.of_data hvs hcs (fun i => (hv i).2.1) (fun i => (hv i).2.2) (fun i => (hc i).1) (fun i => (hc i).2) hw.toWFd
  have hs := fun i => (hv i).1
  refine ⟨d.lr, d.out_mem, d.in_mem, d.out_sound, d.in_sound, ?_, ?_, ?_⟩
  · simpa only [hvs, hs] using hw.scale_ne
  · simpa only [hvs] using hb
  · simpa only [hcs] using hi

theorem WF.of_frame {st st' : St} (h : Frame st st') : WF st → (∀ v, v < st.vs.size → (getV st' v).block < st'.bs.size) →
    (∀ ci ∈ st'.inactive.toList, ci < st.cs.size) → WF st' :=
  WF.of_data h.vsize h.csize (fun i => ⟨(h.vstat i).2.2.1, (h.vstat i).2.2.2.1, (h.vstat i).2.2.2.2⟩)
    (fun i => ⟨(h.cstat i).1, (h.cstat i).2.1⟩)

/-- `Inv` is insensitive to desired positions, weights, multipliers, `unsat` flags, position statistics, the block list and `err` -/
theorem Inv.of_same {st st' : St} (hsz : st'.vs.size = st.vs.size) (hcs : st'.cs.size = st.cs.size)
    (hbs : st.bs.size ≤ st'.bs.size)
    (hv : ∀ i, (getV st' i).s = (getV st i).s ∧ (getV st' i).cOut = (getV st i).cOut ∧ (getV st' i).cIn = (getV st i).cIn ∧
      (getV st' i).offset = (getV st i).offset ∧ (getV st' i).block = (getV st i).block)
    (hc : ∀ i, (getC st' i).l = (getC st i).l ∧ (getC st' i).r = (getC st i).r ∧ (getC st' i).g = (getC st i).g ∧
      (getC st' i).active = (getC st i).active)
    (hB : ∀ b, (getB st' b).vars = (getB st b).vars) (hin : ∀ ci ∈ st'.inactive.toList, ci < st.cs.size)
    (hi : Inv st) : Inv st' := by
  have ho := fun i => (hv i).2.2.2.1
  have hk := fun i => (hv i).2.2.2.2
  have hl := fun i => (hc i).1
  have hr := fun i => (hc i).2.1
  have hg := fun i => (hc i).2.2.1
  have ha := fun i => (hc i).2.2.2
  have hconn := Conn.congr hcs hl hr ha
  refine ⟨WF.of_data hsz hcs (fun i => ⟨(hv i).1, (hv i).2.1, (hv i).2.2.1⟩) (fun i => ⟨hl i, hr i⟩) hi.wf
    (fun v hv => by rw [hk]; exact Nat.lt_of_lt_of_le (hi.wf.block_lt v hv) hbs) hin, ?_, ?_, ?_, ?_⟩
  · simpa only [ho, hcs, hl, hr, hg, ha] using hi.tight
  · simpa only [hk, hsz, hconn] using hi.comps
  · simpa only [hcs, hl, hr, ha, hconn] using hi.forest
  · simpa only [hk, hsz, hB] using hi.members

end Labella.Vpsc
