import Labella.Proofs.LayoutSep
import Labella.Proofs.PermLemmas
import Labella.Proofs.EngineTLemmas
/-! End-to-end helpers for C01–C03: what `removeOverlap` proves of one layer holds of every layer of
`Layout.compute`, and of what the stateful engine reports after any history. -/
namespace Labella.Layout
open Labella Labella.Chain

/-! ### `placeLayers`, layer by layer -/

theorem placeLayers_length (o : FOpts) (labels : List Label) :
    ∀ (ls : List (List Ref)) (prev : Option (List Placed)), (placeLayers o labels prev ls).length = ls.length := by
  intro ls
  induction ls with
  | nil => intro prev; simp [placeLayers]
  | cons l ls ih => intro prev; simp [placeLayers, ih]

theorem placeLayers_getElem? (o : FOpts) (labels : List Label) :
    ∀ (ls : List (List Ref)) (prev : Option (List Placed)) (j : Nat),
    (placeLayers o labels prev ls)[j]? =
      ls[j]?.map (placeLayer o labels (if j = 0 then prev else (placeLayers o labels prev ls)[j - 1]?))
  | [], _, _ => rfl
  | _ :: _, _, 0 => rfl
  | l :: ls, prev, k + 1 => by
    rw [placeLayers, List.getElem?_cons_succ, List.getElem?_cons_succ,
      placeLayers_getElem? o labels ls (some (placeLayer o labels prev l)) k]
    cases k <;> rfl

/-- the items `removeOverlap` is given for layer `j` of `compute o labels` -/
def layerItems (o : FOpts) (labels : List Label) (j : Nat) : List LItem :=
  ((distribute o.toD labels).getD j []).map
    (layerItem o labels (if j = 0 then none else (compute o labels)[j - 1]?))

theorem placeLayer_view (o : FOpts) (labels : List Label) (prev : Option (List Placed)) (layer : List Ref) :
    (placeLayer o labels prev layer).map (fun p => (layerItem o labels prev p.ref, (p.pos : ℚ)))
      = ((sortItems (layer.map (layerItem o labels prev)).zipIdx).map (·.1)).zip
          ((removeOverlap o.toR (layer.map (layerItem o labels prev))).pos.map (fun (p : Int) => (p : ℚ))) := by
  simp only [placeLayer]
  rw [List.map_zipWith]
  have hord : (removeOverlap o.toR (layer.map (layerItem o labels prev))).order
      = (sortItems (layer.map (layerItem o labels prev)).zipIdx).map (·.2) := rfl
  rw [hord, List.zip_eq_zipWith, List.zipWith_map_left, List.zipWith_map_left, List.zipWith_map_right]
  apply zipWith_congr_of_mem
  intro q hq p
  obtain ⟨r, hl, hget⟩ := mem_sortItems_map _ layer hq
  simp [List.getD, hl, hget]

/-- **the layer view of a computed layout**: layer `j`, every item paired with the item `removeOverlap` was given for
it, is `removeOverlap`'s sorted list zipped with its reported positions -/
theorem compute_view (o : FOpts) (labels : List Label) (j : Nat) :
    ((compute o labels).getD j []).map
        (fun p => (layerItem o labels (if j = 0 then none else (compute o labels)[j - 1]?) p.ref, (p.pos : ℚ)))
      = ((sortItems (layerItems o labels j).zipIdx).map (·.1)).zip
          ((removeOverlap o.toR (layerItems o labels j)).pos.map (fun (p : Int) => (p : ℚ))) := by
  have h := placeLayers_getElem? o labels (distribute o.toD labels) none j
  change (compute o labels)[j]? = _ at h
  have hprev : (if j = 0 then none else (placeLayers o labels none (distribute o.toD labels))[j - 1]?)
      = (if j = 0 then none else (compute o labels)[j - 1]?) := rfl
  rw [hprev] at h
  unfold layerItems
  rw [List.getD_eq_getElem?_getD, List.getD_eq_getElem?_getD, h]
  cases (distribute o.toD labels)[j]? with
  | none => simp [sortItems]
  | some layer =>
    simp only [Option.map_some, Option.getD_some]
    exact placeLayer_view o labels _ layer

/-! ### label ids of a computed layout are indices into the label list -/

theorem distribute_ids_lt (o : DOpts) (labels : List Label) :
    ∀ layer ∈ distribute o labels, ∀ r ∈ layer, r.id < labels.length := by
  intro layer hl r hr
  obtain ⟨j, hj, rfl⟩ := List.mem_iff_getElem.1 hl
  -- the item is a label, or the stub of a label farther out; label ids are `0 … n-1`
  obtain ⟨l, hl', hi⟩ := (stubChains_distribute o labels).label_beyond hj hr
  exact List.mem_range.1 ((labelIds_distribute o labels).subset (mem_labelIds.2 ⟨l, List.mem_of_mem_drop hl', hi⟩))

theorem zipWith_fst_eq_map {α β γ : Type} (f : α → γ) (as : List α) (bs : List β) (h : as.length ≤ bs.length) :
    List.zipWith (fun a _ => f a) as bs = as.map f := by
  rw [← List.map_uncurry_zip_eq_zipWith]
  conv_rhs => rw [← List.map_fst_zip h, List.map_map]
  rfl

theorem placeLayer_refs_perm (o : FOpts) (labels : List Label) (prev : Option (List Placed)) (layer : List Ref) :
    ((placeLayer o labels prev layer).map (·.ref)).Perm layer := by
  unfold placeLayer
  have hperm := removeOverlap_order_perm o.toR (layer.map (layerItem o labels prev))
  have hpos := removeOverlap_pos_length o.toR (layer.map (layerItem o labels prev))
  generalize removeOverlap o.toR (layer.map (layerItem o labels prev)) = out at *
  rw [List.length_map] at hperm hpos
  simp only [List.map_zipWith]
  rw [zipWith_fst_eq_map (fun idx => layer.getD idx (Ref.label 0)) out.order out.pos
    (by rw [hperm.length_eq, List.length_range, hpos])]
  have := hperm.map (fun k => layer.getD k (Ref.label 0))
  rwa [range_map_getD] at this

theorem placeLayer_refs (o : FOpts) (labels : List Label) (prev : Option (List Placed)) (layer : List Ref) :
    ∀ p ∈ placeLayer o labels prev layer, p.ref ∈ layer :=
  fun _ hp => (placeLayer_refs_perm o labels prev layer).subset (List.mem_map_of_mem hp)

theorem placeLayers_refs (o : FOpts) (labels : List Label) :
    ∀ (ls : List (List Ref)) (prev : Option (List Placed)) (n : Nat), (∀ l ∈ ls, ∀ r ∈ l, r.id < n) →
    ∀ layer ∈ placeLayers o labels prev ls, ∀ p ∈ layer, p.ref.id < n := by
  intro ls
  induction ls with
  | nil => intro prev n _ layer hl; simp [placeLayers] at hl
  | cons l ls ih =>
    intro prev n h layer hl p hp
    simp only [placeLayers, List.mem_cons] at hl
    rcases hl with rfl | hl
    · exact h l (by simp) _ (placeLayer_refs o labels prev l p hp)
    · exact ih _ n (fun l' hl' => h l' (by simp [hl'])) layer hl p hp

theorem compute_ids_lt (o : FOpts) (labels : List Label) :
    ∀ layer ∈ compute o labels, ∀ p ∈ layer, p.ref.id < labels.length :=
  placeLayers_refs o labels _ none labels.length (distribute_ids_lt o.toD labels)

/-! ### inside the bounds -/

theorem SepBy_getElem {e : ℚ} : ∀ (gs xs : List ℚ), SepBy e gs xs →
    ∀ (i : ℕ) (h1 : i < gs.length) (h2 : i + 1 < xs.length), gs[i] - e ≤ xs[i + 1] - xs[i] :=
  fun gs xs h i h1 h2 => SepBy_getElem? gs xs h i _ _ _ (List.getElem?_eq_getElem h1)
    (List.getElem?_eq_getElem (Nat.lt_of_succ_lt h2)) (List.getElem?_eq_getElem h2)

theorem spacing_nonneg (o : ROpts) (hns : 0 ≤ o.nodeSpacing) (hls : 0 ≤ o.lineSpacing) (a b : LItem) :
    0 ≤ spacing o a b := by
  unfold spacing; split <;> assumption

theorem left_edge_at (o : ROpts) (e : ℚ) (hns : 0 ≤ o.nodeSpacing) (hls : 0 ≤ o.lineSpacing) (k : Nat) :
    ∀ (a : LItem × ℚ) (rest : List (LItem × ℚ)) (b : LItem × ℚ), sepAdjB o e (a :: rest) = true →
      (∀ p ∈ a :: rest, 0 ≤ p.1.width) → (a :: rest)[k]? = some b →
      a.2 - a.1.width / 2 - e * (k : ℚ) ≤ b.2 - b.1.width / 2 := by
  induction k with
  | zero =>
    intro a rest b _ _ hk
    obtain rfl := Option.some.inj hk
    simp
  | succ k ih =>
    intro a rest b hs hw hk
    cases rest with
    | nil => cases hk
    | cons c rest =>
      have hi := ih c rest b (sepAdjB_tail hs) (fun q hq => hw q (List.mem_cons_of_mem _ hq)) hk
      have hsp := spacing_nonneg o hns hls a.1 c.1
      have hwa := hw a List.mem_cons_self
      have hgap := sepAdjB_head hs
      rw [Nat.cast_succ]
      linarith only [hi, hsp, hwa, hgap]

theorem sep_label_from (o : ROpts) (e : ℚ) (hns : 0 ≤ o.nodeSpacing) (hls : 0 ≤ o.lineSpacing) (k : Nat) (a b : LItem × ℚ)
    (hst : a.1.stub = false) :
    ∀ (L : List (LItem × ℚ)) (i : Nat), sepAdjB o e L = true → (∀ p ∈ L, 0 ≤ p.1.width) →
      L[i]? = some a → L[i + k + 1]? = some b →
      (a.1.width + b.1.width) / 2 + o.nodeSpacing - e * ((k + 1 : Nat) : ℚ) ≤ b.2 - a.2 := by
  intro L
  induction L with
  | nil => intro i _ _ ha; cases ha
  | cons a' rest ih =>
    intro i hs hw ha hb
    cases i with
    | succ i =>
      rw [show i + 1 + k + 1 = (i + k + 1) + 1 by omega] at hb
      exact ih i (sepAdjB_tail hs) (fun q hq => hw q (List.mem_cons_of_mem _ hq)) ha hb
    | zero =>
      obtain rfl := Option.some.inj ha
      rw [Nat.zero_add] at hb
      cases rest with
      | nil => cases hb
      | cons c rest =>
        have hle := left_edge_at o e hns hls k c rest b (sepAdjB_tail hs) (fun q hq => hw q (List.mem_cons_of_mem _ hq)) hb
        have hgap := sepAdjB_head hs
        have hsp : spacing o a'.1 c.1 = o.nodeSpacing := by rw [spacing, hst]; rfl
        rw [hsp] at hgap
        rw [Nat.cast_succ]
        linarith only [hle, hgap]

theorem edges (o : ROpts) (e : ℚ) (he : 0 ≤ e) (hns : 0 ≤ o.nodeSpacing) (hls : 0 ≤ o.lineSpacing)
    (L : List (LItem × ℚ)) (hs : sepAdjB o e L = true) (hw : ∀ p ∈ L, 0 ≤ p.1.width) (p : LItem × ℚ) (hp : p ∈ L) :
    (∀ q, L.head? = some q → q.2 - q.1.width / 2 - (L.length : ℚ) * e + e ≤ p.2 - p.1.width / 2) ∧
    (∀ q, L.getLast? = some q → p.2 + p.1.width / 2 ≤ q.2 + q.1.width / 2 + (L.length : ℚ) * e - e) := by
  induction L generalizing p with
  | nil => cases hp
  | cons a rest ih =>
    rw [List.length_cons, Nat.cast_succ, add_mul, one_mul]
    cases rest with
    | nil =>
      obtain rfl := List.mem_singleton.1 hp
      constructor <;> intro q hq <;> cases hq <;> simp
    | cons b rest' =>
      obtain ⟨⟨_, hgap⟩, hrest⟩ := sepAdjB_cons_cons.1 hs
      obtain ⟨hwa, hw'⟩ := List.forall_mem_cons.1 hw
      have hwb := hw' b List.mem_cons_self
      have hsp := spacing_nonneg o hns hls a.1 b.1
      have hn : 0 ≤ ((b :: rest').length : ℚ) * e := mul_nonneg (Nat.cast_nonneg _) he
      unfold gap at hgap
      rw [halfDivisor_eq'] at hgap
      have hb := ih hrest hw' b List.mem_cons_self
      constructor
      · intro q hq
        cases hq
        rcases List.mem_cons.1 hp with rfl | hp
        · rw [sub_add, add_sub_cancel_right]
          exact sub_le_self _ hn
        · have := (ih hrest hw' p hp).1 b rfl
          linarith only [this, hgap, hwa, hsp]
      · intro q hq
        rw [List.getLast?_cons_cons] at hq
        rcases List.mem_cons.1 hp with rfl | hp
        · have := hb.2 q hq
          linarith only [this, hgap, hwb, hsp]
        · rw [← add_assoc, add_sub_cancel_right]
          exact ((ih hrest hw' p hp).2 q hq).trans (sub_le_self _ he)

theorem insideB_iff (o : ROpts) (tol : ℚ) (l : List (LItem × ℚ)) :
    insideB o tol l = true ↔
      (∀ a, o.minPos = some a → ∀ p ∈ l, a - tol ≤ p.2 - p.1.width / 2) ∧
      (∀ b, o.maxPos = some b → ∀ p ∈ l, p.2 + p.1.width / 2 ≤ b + tol) := by
  unfold insideB
  simp only [List.all_eq_true, Bool.and_eq_true, imp_and, forall_and]
  refine and_congr ?_ ?_
  · cases o.minPos with
    | none => simp only [reduceCtorEq, false_imp_iff, implies_true]
    | some a => simp only [Option.some.injEq, forall_eq', decide_eq_true_eq]
  · cases o.maxPos with
    | none => simp only [reduceCtorEq, false_imp_iff, implies_true]
    | some b => simp only [Option.some.injEq, forall_eq', decide_eq_true_eq]

theorem insideB_round (o : ROpts) (tol : ℚ) (its : List LItem) (xs : List ℚ)
    (h : insideB o tol (its.zip xs) = true) :
    insideB o (tol + 1 / 2) (its.zip (xs.map (fun x => ((roundHalfEven x : Int) : ℚ)))) = true := by
  rw [insideB_iff] at h ⊢
  rw [List.zip_map_right]
  refine ⟨fun a ha p hp => ?_, fun b hb p hp => ?_⟩
  · obtain ⟨q, hq, rfl⟩ := List.mem_map.1 hp
    show a - (tol + 1 / 2) ≤ ((roundHalfEven q.2 : Int) : ℚ) - q.1.width / 2
    linarith only [h.1 a ha q hq, (abs_le.mp (round_close' q.2)).1]
  · obtain ⟨q, hq, rfl⟩ := List.mem_map.1 hp
    show ((roundHalfEven q.2 : Int) : ℚ) + q.1.width / 2 ≤ b + (tol + 1 / 2)
    linarith only [h.2 b hb q hq, (abs_le.mp (round_close' q.2)).2]

theorem wall_near {vars : List Item} (hw : ∀ v ∈ vars, 0 ≤ v.w) {all : List ℚ} {W d : ℚ} (hW : 0 < W) (hd : 0 ≤ d)
    (hcost : cost vars all ≤ W * d * d) {i : ℕ} {t x : ℚ} (hv : vars[i]? = some ⟨W, t⟩) (hx : all[i]? = some x) :
    -d ≤ x - t ∧ x - t ≤ d := by
  have h := (cost_getElem_le hw hv hx).trans hcost
  rw [mul_assoc, mul_assoc] at h
  have h' := le_of_mul_le_mul_left h hW
  rw [← sq, ← sq] at h'
  exact abs_le_of_sq_le_sq' h' hd

theorem exists_cons_cons {l : List ℚ} (h : 2 ≤ l.length) : ∃ a b t, l = a :: b :: t :=
  match l, h with
  | a :: b :: t, _ => ⟨a, b, t, rfl⟩

theorem left_junction {o : ROpts} {f : LItem} {rest : List LItem} {x0 x1 : ℚ} {tl : List ℚ} {d lo : ℚ} (hd : 0 ≤ d)
    (hall : SepBy Layout.eps (chainGaps o (f :: rest)) (x0 :: x1 :: tl))
    (hcost : cost (chainVars o (f :: rest)) (x0 :: x1 :: tl) ≤ Gen.wallWeight * d * d) (hlo : o.minPos = some lo) :
    lo - d - Layout.eps ≤ x1 - f.width / 2 := by
  have hlw : leftWall o = [⟨Gen.wallWeight, lo⟩] := by simp [leftWall, hlo]
  have hnear := wall_near (fun v hv => (chainVars_pos o _ v hv).le) wallWeight_pos' hd hcost (i := 0) (t := lo) (x := x0)
    (by rw [chainVars, hlw]; rfl) rfl
  have hgap := SepBy_getElem? _ _ hall 0 (f.width / 2) x0 x1 (by rw [chainGaps, leftGap, hlo]; rfl) rfl rfl
  linarith only [hnear.1, hgap]

theorem right_junction {o : ROpts} {its : List LItem} (h : its ≠ []) {all : List ℚ} {d hi : ℚ} (hd : 0 ≤ d)
    (hall : SepBy Layout.eps (chainGaps o its) all)
    (hcost : cost (chainVars o its) all ≤ Gen.wallWeight * d * d) (hhi : o.maxPos = some hi)
    {l : LItem} (hl : its.getLast? = some l) {m : ℕ} (hm : m + 1 = (leftWall o).length + its.length) {y xr : ℚ}
    (hy : all[m]? = some y) (hxr : all[m + 1]? = some xr) :
    y + l.width / 2 ≤ hi + d + Layout.eps := by
  have hrw : rightWall o = [⟨Gen.wallWeight, hi⟩] := by simp [rightWall, hhi]
  have hnear := wall_near (fun v hv => (chainVars_pos o _ v hv).le) wallWeight_pos' hd hcost (i := m + 1) (t := hi)
    (by rw [hm, chainVars, hrw, List.getElem?_append_right (by simp)]; simp) hxr
  have hG : (chainGaps o its)[m]? = some (l.width / 2) := by
    have hlg : (leftGap o its ++ gaps o its).length = m := by
      have : 0 < its.length := List.length_pos_iff.mpr h
      rw [List.length_append, leftGap_length o h, gaps_length]; omega
    rw [chainGaps, List.getElem?_append_right hlg.le, hlg, Nat.sub_self, rightGap, hhi, hl]
    rfl
  have hgap := SepBy_getElem? _ _ hall _ _ _ _ hG hy hxr
  linarith only [hnear.2, hgap]

/-- **C03 on the solver's own positions, each bound optional**: if some placement `zs` keeps all gaps with the walls exactly at the
bounds (the items fit) and costs `K = Σ (zᵢ − tᵢ)² ≤ W·d²`, every item lies inside the bounds up to `d + n·eps`: a wall is within `d`
of its bound, the item next to it keeps its half width from the wall up to `eps`, and edges move by at most `eps` per item -/
theorem inside_unrounded (o : ROpts) (its : List LItem) (h : its ≠ [])
    (hs : its.Pairwise (fun a b => a.target ≤ b.target))
    (hw : ∀ i ∈ its, 0 ≤ i.width) (hns : 0 ≤ o.nodeSpacing) (hls : 0 ≤ o.lineSpacing)
    (zs : List ℚ) (hz : zs.length = its.length)
    (hfeas : SepBy 0 (chainGaps o its) ((leftWall o).map (·.t) ++ zs ++ (rightWall o).map (·.t)))
    (d : ℚ) (hd : 0 ≤ d) (hK : cost (its.map toVar) zs ≤ Gen.wallWeight * d * d) :
    insideB o (d + (its.length : ℚ) * Layout.eps) (its.zip (solveSorted o its)) = true := by
  rw [insideB_iff]
  have hedges := edges o Layout.eps eps_nonneg' hns hls _ (sep_unrounded' o its hs)
    (fun p hp => hw p.1 (List.of_mem_zip hp).1)
  have hlenL : (its.zip (solveSorted o its)).length = its.length := by
    rw [List.length_zip, solveSorted_length' o its h, Nat.min_self]
  rw [hlenL] at hedges
  -- `linarith` below is slow on the cast of `its.length` and on projections of pairs: such terms get names first
  generalize (its.length : ℚ) * Layout.eps = E at hedges ⊢
  have hcost := (solve_cost_le_fit o its h zs hz hfeas).trans hK
  have hall := solve_feasible' Layout.eps eps_nonneg' (chainVars o its) (chainGaps o its) (chainVars_pos o its)
  have hal := (solve_length' Layout.eps _ _ (chain_lengths o h)).trans (chainVars_length o its)
  have hget := fun k hk => solveSorted_getElem? o its (k := k) hk
  generalize solve Layout.eps (chainVars o its) (chainGaps o its) = all at hcost hall hal hget
  constructor
  · intro lo hlo p hp
    obtain ⟨f, rest, rfl⟩ := List.exists_cons_of_ne_nil h
    have hlw : (leftWall o).length = 1 := by simp [leftWall, hlo]
    rw [hlw] at hal hget
    obtain ⟨x0, x1, tl, rfl⟩ := exists_cons_cons (l := all) (by rw [hal, List.length_cons]; omega)
    have hq : ((f :: rest).zip (solveSorted o (f :: rest))).head? = some (f, x1) := by
      rw [List.head?_eq_getElem?, List.getElem?_zip_eq_some]
      exact ⟨rfl, hget 0 (Nat.succ_pos _)⟩
    have h1 := (hedges p hp).1 _ hq
    have h2 := left_junction hd hall hcost hlo
    simp only at h1
    generalize x1 - f.width / 2 = X at h1 h2
    generalize p.2 - p.1.width / 2 = P at h1 ⊢
    linarith only [h1, h2]
  · intro hi hhi p hp
    obtain ⟨n, hn⟩ := Nat.exists_eq_succ_of_ne_zero (List.length_pos_iff.mpr h).ne'
    have hrw : (rightWall o).length = 1 := by simp [rightWall, hhi]
    rw [hrw, hn] at hal
    obtain ⟨y, hy⟩ : ∃ y, all[(leftWall o).length + n]? = some y :=
      ⟨_, List.getElem?_eq_getElem (by omega)⟩
    obtain ⟨xr, hxr⟩ : ∃ xr, all[(leftWall o).length + n + 1]? = some xr :=
      ⟨_, List.getElem?_eq_getElem (by omega)⟩
    obtain ⟨l, hl⟩ : ∃ l, its[n]? = some l := ⟨_, List.getElem?_eq_getElem (by omega)⟩
    have hl' : its.getLast? = some l := by rw [List.getLast?_eq_getElem?, hn]; exact hl
    have hq : (its.zip (solveSorted o its)).getLast? = some (l, y) := by
      rw [List.getLast?_eq_getElem?, hlenL, hn, List.getElem?_zip_eq_some]
      exact ⟨hl, (hget n (by omega)).trans hy⟩
    have h1 := (hedges p hp).2 _ hq
    have h2 := right_junction h hd hall hcost hhi hl' (by rw [hn]; rfl) hy hxr
    simp only at h1
    generalize y + l.width / 2 = Y at h1 h2
    generalize p.2 + p.1.width / 2 = P at h1 ⊢
    linarith only [h1, h2]

/-! ### `removeOverlap` in terms of its sorted item list -/

theorem solveSorted_nil (o : ROpts) : solveSorted o [] = [] := by
  simp [solveSorted]

theorem removeOverlap_pos_eq (o : ROpts) (items : List LItem) :
    (removeOverlap o items).pos.map (fun (p : Int) => (p : ℚ))
      = (solveSorted o ((sortItems items.zipIdx).map (·.1))).map (fun x => ((roundHalfEven x : Int) : ℚ)) := by
  simp only [removeOverlap]
  split
  · rename_i hemp
    rw [List.isEmpty_iff] at hemp
    rw [hemp, solveSorted_nil]; rfl
  · simp only [List.map_map]; rfl

theorem zip_solveSorted_fst (o : ROpts) (S : List LItem) (f : ℚ → ℚ) :
    (S.zip ((solveSorted o S).map f)).map (·.1) = S := by
  by_cases h : S = []
  · subst h; rfl
  · rw [List.map_fst_zip]
    rw [List.length_map, solveSorted_length' o S h]

theorem zip_solveSorted_snd (o : ROpts) (S : List LItem) (f : ℚ → ℚ) :
    (S.zip ((solveSorted o S).map f)).map (·.2) = (solveSorted o S).map f := by
  rw [List.map_snd_zip]
  rw [List.length_map, solveSorted]
  exact List.length_take_le _ _

theorem forall₂_zip_round (its : List LItem) (xs : List ℚ) (h : its.length = xs.length) :
    List.Forall₂ (fun (p : LItem × ℚ) x => |p.2 - x| ≤ 1 / 2)
      (its.zip (xs.map (fun x => ((roundHalfEven x : Int) : ℚ)))) xs := by
  induction its generalizing xs with
  | nil =>
    cases xs with
    | nil => exact List.Forall₂.nil
    | cons x xs => simp at h
  | cons a its ih =>
    cases xs with
    | nil => simp at h
    | cons x xs =>
      simp only [List.map_cons, List.zip_cons_cons]
      exact List.Forall₂.cons (round_close' x) (ih xs (by simpa using h))

theorem layerItem_width_nonneg (o : FOpts) (labels : List Label) (hw : ∀ l ∈ labels, 0 ≤ l.width)
    (hsw : 0 ≤ o.stubWidth) (prev : Option (List Placed)) (r : Ref) : 0 ≤ (layerItem o labels prev r).width := by
  simp only [layerItem]
  split
  · exact hsw
  · unfold widthOf
    cases hl : labels[r.id]? with
    | none => simp
    | some l => simpa using hw l (List.mem_of_getElem? hl)

theorem sorted_width_nonneg (o : FOpts) (labels : List Label) (hw : ∀ l ∈ labels, 0 ≤ l.width)
    (hsw : 0 ≤ o.stubWidth) (j : Nat) :
    ∀ i ∈ (sortItems (layerItems o labels j).zipIdx).map (·.1), 0 ≤ i.width := by
  intro i hi
  have := (sortItems_map_fst_perm (layerItems o labels j)).subset hi
  unfold layerItems at this
  obtain ⟨r, _, rfl⟩ := List.mem_map.1 this
  exact layerItem_width_nonneg o labels hw hsw _ r

/-! ### "the items fit" (`fitsB`) is exactly: some placement keeps every gap with the walls at the bounds -/

theorem prefixSums_head? (s : ℚ) (gs : List ℚ) : (prefixSums s gs).head? = some s := by
  obtain ⟨t, ht⟩ := prefixSums_head s gs
  rw [ht]; rfl

theorem prefixSums_getLast? (s : ℚ) (gs : List ℚ) : (prefixSums s gs).getLast? = some (s + gs.sum) := by
  induction gs generalizing s with
  | nil => simp [prefixSums]
  | cons g gs ih =>
    obtain ⟨t, ht⟩ := prefixSums_head (s + g) gs
    have := ih (s + g)
    rw [ht] at this
    simp only [prefixSums, ht, List.getLast?_cons_cons, this, List.sum_cons]
    congr 1; ring

theorem SepBy_prefixSums (s : ℚ) (gs : List ℚ) : SepBy 0 gs (prefixSums s gs) := by
  induction gs generalizing s with
  | nil => exact SepBy_nil_left _ _
  | cons g gs ih =>
    obtain ⟨t, ht⟩ := prefixSums_head (s + g) gs
    have := ih (s + g)
    rw [ht] at this
    simp only [prefixSums, ht, SepBy]
    exact ⟨by linarith, this⟩

theorem SepBy_cons_of {e g a : ℚ} {gs xs : List ℚ} (h1 : ∀ b, xs.head? = some b → g - e ≤ b - a)
    (h2 : SepBy e gs xs) : SepBy e (g :: gs) (a :: xs) := by
  cases xs with
  | nil => exact SepBy_single _ _ _
  | cons b xs => exact ⟨h1 b rfl, h2⟩

theorem SepBy_concat_of {e g y : ℚ} : ∀ {gs xs : List ℚ}, gs.length + 1 = xs.length → SepBy e gs xs →
    (∀ b, xs.getLast? = some b → g - e ≤ y - b) → SepBy e (gs ++ [g]) (xs ++ [y]) := by
  intro gs
  induction gs with
  | nil =>
    intro xs hl _ h
    match xs, hl with
    | [b], _ => exact ⟨h b rfl, trivial⟩
  | cons g' gs ih =>
    intro xs hl hs h
    match xs, hl, hs, h with
    | a :: b :: xs, hl, hs, h =>
      simp only [List.cons_append, SepBy]
      refine ⟨hs.1, ?_⟩
      have := ih (xs := b :: xs) (by simpa using hl) hs.2 (by
        intro c hc; exact h c (by rw [List.getLast?_cons_cons]; exact hc))
      simpa using this

theorem SepBy_sum_le : ∀ (gs xs : List ℚ), SepBy 0 gs xs → gs.length + 1 = xs.length →
    ∀ a b, xs.head? = some a → xs.getLast? = some b → gs.sum ≤ b - a := by
  intro gs
  induction gs with
  | nil =>
    intro xs _ hl a b ha hb
    match xs, hl, ha, hb with
    | [c], _, ha, hb =>
      simp only [List.head?_cons, List.getLast?_singleton, Option.some.injEq] at ha hb
      subst ha hb; simp
  | cons g gs ih =>
    intro xs hs hl a b ha hb
    match xs, hl, hs, ha, hb with
    | c :: c' :: xs, hl, hs, ha, hb =>
      simp only [List.head?_cons, Option.some.injEq] at ha
      subst ha
      rw [List.getLast?_cons_cons] at hb
      have := ih (c' :: xs) hs.2 (by simpa using hl) c' b rfl hb
      have h1 := hs.1
      simp only [List.sum_cons]
      linarith only [this, h1]

theorem fitsB_iff_feasible (o : ROpts) (its : List LItem) (h : its ≠ []) :
    fitsB o its = true ↔ ∃ zs : List ℚ, zs.length = its.length ∧
      SepBy 0 (chainGaps o its) ((leftWall o).map (·.t) ++ zs ++ (rightWall o).map (·.t)) := by
  obtain ⟨f, hf⟩ : ∃ f, its.head? = some f := ⟨_, List.head?_eq_some_head h⟩
  obtain ⟨l, hl⟩ : ∃ l, its.getLast? = some l := ⟨_, List.getLast?_eq_some_getLast h⟩
  have hgl := gaps_length o its
  have hn : 0 < its.length := List.length_pos_iff.mpr h
  -- the witness packs the items as tightly as the gaps allow, from a suitable start
  have hlen : ∀ s, (prefixSums s (gaps o its)).length = its.length := fun s => by
    rw [prefixSums_length, hgl]; omega
  cases hlo : o.minPos with
  | none =>
    cases hhi : o.maxPos with
    | none =>
      have e : fitsB o its = true := by simp [fitsB, hlo]
      simp only [e, true_iff]
      refine ⟨prefixSums 0 (gaps o its), hlen _, ?_⟩
      simp only [chainGaps, leftGap, rightGap, leftWall, rightWall, hlo, hhi, List.map_nil, List.nil_append,
        List.append_nil]
      exact SepBy_prefixSums _ _
    | some hi =>
      have e : fitsB o its = true := by simp [fitsB, hlo]
      simp only [e, true_iff]
      refine ⟨prefixSums (hi - l.width / 2 - (gaps o its).sum) (gaps o its), hlen _, ?_⟩
      simp only [chainGaps, leftGap, rightGap, leftWall, rightWall, hlo, hhi, hl, List.map_nil, List.nil_append,
        List.map_cons, halfDivisor_eq']
      apply SepBy_concat_of
      · rw [prefixSums_length]
      · exact SepBy_prefixSums _ _
      · intro b hb
        rw [prefixSums_getLast?] at hb
        rw [← Option.some.inj hb, sub_add_cancel, sub_sub_cancel, sub_zero]
  | some lo =>
    cases hhi : o.maxPos with
    | none =>
      have e : fitsB o its = true := by simp [fitsB, hlo, hhi]
      simp only [e, true_iff]
      refine ⟨prefixSums (lo + f.width / 2) (gaps o its), hlen _, ?_⟩
      simp only [chainGaps, leftGap, rightGap, leftWall, rightWall, hlo, hhi, hf, List.map_nil, List.append_nil,
        List.map_cons, halfDivisor_eq', List.singleton_append]
      apply SepBy_cons_of
      · intro b hb
        rw [prefixSums_head?] at hb
        rw [← Option.some.inj hb, add_sub_cancel_left, sub_zero]
      · exact SepBy_prefixSums _ _
    | some hi =>
      have e : fitsB o its = decide (neededWidth o its ≤ hi - lo) := by simp [fitsB, hlo, hhi]
      have enw : neededWidth o its = (gaps o its).sum + f.width / 2 + l.width / 2 := by
        simp [neededWidth, hf, hl]
      rw [e, decide_eq_true_eq, enw]
      simp only [chainGaps, leftGap, rightGap, leftWall, rightWall, hlo, hhi, hf, hl,
        List.map_cons, List.map_nil, halfDivisor_eq', List.cons_append, List.nil_append]
      constructor
      · intro hfit
        refine ⟨prefixSums (lo + f.width / 2) (gaps o its), hlen _, ?_⟩
        apply SepBy_cons_of
        · intro b hb
          rw [List.head?_append, prefixSums_head?] at hb
          rw [← Option.some.inj hb, add_sub_cancel_left, sub_zero]
        · apply SepBy_concat_of
          · rw [prefixSums_length]
          · exact SepBy_prefixSums _ _
          · intro b hb
            rw [prefixSums_getLast?] at hb
            have := Option.some.inj hb
            linarith only [this, hfit]
      · rintro ⟨zs, hz, hs⟩
        have := SepBy_sum_le _ _ hs (by simp [hgl, hz]; omega) lo hi rfl (by rw [List.getLast?_cons, List.getLast?_concat]; rfl)
        simp only [List.sum_cons, List.sum_append, List.sum_nil] at this
        linarith only [this]

/-! ### layers as `removeOverlap` sees them -/

/-- layer `j` of a layered list: every element with the item reconstructed against the previous layer, and its position -/
def viewOf {α : Type} (item : Option (List α) → α → LItem) (pos : α → ℚ) (O : List (List α)) (j : Nat) :
    List (LItem × ℚ) :=
  (O.getD j []).map (fun x => (item (if j = 0 then none else O[j - 1]?) x, pos x))

theorem viewOf_map {α β : Type} {item : Option (List α) → α → LItem} {pos : α → ℚ}
    {item' : Option (List β) → β → LItem} {pos' : β → ℚ} (g : Nat → α → β) {O : List (List α)} {O' : List (List β)}
    (hO : ∀ j, O'[j]? = O[j]?.map (List.map (g j))) (j : Nat)
    (hpos : ∀ x, pos' (g j x) = pos x) (hnone : ∀ x, item' none (g j x) = item none x)
    (hsome : ∀ ps, O[j - 1]? = some ps → ∀ l, O[j]? = some l → ∀ x ∈ l,
      item' (some (ps.map (g (j - 1)))) (g j x) = item (some ps) x) :
    viewOf item' pos' O' j = viewOf item pos O j := by
  unfold viewOf
  rw [List.getD_eq_getElem?_getD, List.getD_eq_getElem?_getD, hO j, hO (j - 1)]
  cases hl : O[j]? with
  | none => rfl
  | some l =>
    rw [Option.map_some, Option.getD_some, Option.getD_some, List.map_map]
    apply List.map_congr_left
    intro x hx
    show (item' _ (g j x), pos' (g j x)) = (item _ x, pos x)
    rw [hpos]
    congr 1
    by_cases hj : j = 0
    · rw [if_pos hj, if_pos hj]; exact hnone x
    · rw [if_neg hj, if_neg hj]
      cases hP : O[j - 1]? with
      | none => exact hnone x
      | some ps => exact hsome ps hP l hl x hx

end Labella.Layout

namespace Labella.EngineT
open Labella Labella.Layout

/-! ### the pure observation, layer by layer -/

theorem observePure_getElem? (o : FOpts) (labels : List Label) (datas : List Nat) (L : List (List Placed)) (j : Nat) :
    (observePure o labels datas L)[j]? = L[j]?.map (List.map (obsP o labels datas j)) := by
  rw [observePure_eq, List.getElem?_map, List.getElem?_zipIdx]
  cases L[j]? <;> simp

theorem find?_map_congr {α β : Type} (h : α → β) {q : β → Bool} {p : α → Bool} :
    ∀ (l : List α), (∀ a ∈ l, q (h a) = p a) → (l.map h).find? q = (l.find? p).map h
  | [], _ => rfl
  | a :: t, hl => by
    rw [List.map_cons, List.find?_cons, List.find?_cons, hl a List.mem_cons_self,
      find?_map_congr h t (fun b hb => hl b (List.mem_cons_of_mem a hb))]
    cases p a <;> rfl

/-- looking an item up in the previous observed layer by its payload finds the stand-in the pure model finds by label id
(payloads of distinct labels are distinct) -/
theorem find_data_pure (o : FOpts) (labels : List Label) (datas : List Nat) (hnd : datas.Nodup) (lvl lvl' : Nat)
    (ps : List Placed) (pl : Placed) (hps : ∀ p ∈ ps, p.ref.id < datas.length) (hpl : pl.ref.id < datas.length) :
    ((ps.map (obsP o labels datas lvl)).find? (fun y => y.data == (obsP o labels datas lvl' pl).data)).map (·.pos)
      = (ps.find? (fun p => p.ref.id == pl.ref.id)).map (fun p => (p.pos : ℚ)) := by
  rw [find?_map_congr (obsP o labels datas lvl) (p := fun p => p.ref.id == pl.ref.id) ps, Option.map_map]
  · rfl
  · intro p hp
    have h1 := hps p hp
    simp only [obsP, List.getD, List.getElem?_eq_getElem h1, List.getElem?_eq_getElem hpl, Option.getD_some]
    rw [Bool.eq_iff_iff]
    simp only [beq_iff_eq]
    exact hnd.getElem_inj_iff

theorem observePure_data_mem (o : FOpts) (labels : List Label) (datas : List Nat) (L : List (List Placed))
    (hid : ∀ layer ∈ L, ∀ p ∈ layer, p.ref.id < datas.length) :
    ∀ l ∈ observePure o labels datas L, ∀ x ∈ l, x.data ∈ datas := by
  intro l hl x hx
  rw [observePure_eq] at hl
  obtain ⟨p, hp, rfl⟩ := List.mem_map.1 hl
  obtain ⟨pl, hpl, rfl⟩ := List.mem_map.1 hx
  exact getD_mem (hid p.1 (List.fst_mem_of_mem_zipIdx hp) pl hpl)

theorem find_data_relabel (g : Nat → Nat) (ps : List ObsT) (x : ObsT)
    (hinj : ∀ y ∈ ps, g y.data = g x.data → y.data = x.data) :
    ((ps.map (fun y => { y with data := g y.data })).find? (fun y => y.data == g x.data)).map (·.pos)
      = (ps.find? (fun y => y.data == x.data)).map (·.pos) := by
  have key := find?_map_congr (fun y : ObsT => ({ y with data := g y.data } : ObsT)) (q := fun y => y.data == g x.data)
    (p := fun y => y.data == x.data) ps (fun y hy => by
      rw [Bool.eq_iff_iff]
      simp only [beq_iff_eq]
      exact ⟨hinj y hy, fun h => by rw [h]⟩)
  rw [key, Option.map_map]
  rfl

theorem observePure_idxOf_inj (o : FOpts) (labels : List Label) (datas batch : List Nat)
    (hlen : datas.length = labels.length) (hsub : ∀ d ∈ datas, d ∈ batch) :
    ∀ l ∈ observePure o labels datas (compute o labels), ∀ x ∈ l,
      ∀ l' ∈ observePure o labels datas (compute o labels), ∀ y ∈ l',
        List.idxOf y.data batch = List.idxOf x.data batch → y.data = x.data := by
  have hmem := observePure_data_mem o labels datas _ (by rw [hlen]; exact compute_ids_lt o labels)
  intro l _ x _ l' hl' y hy hxy
  exact (List.idxOf_inj (hsub _ (hmem l' hl' y hy))).1 hxy

end Labella.EngineT
