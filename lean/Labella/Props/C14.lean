import Labella.Model.Scale
import Labella.Props.C16
import Labella.Proofs.TickLemmas
import Labella.Proofs.NiceTenth
import Mathlib.Algebra.Order.Field.Rat
import Mathlib.Tactic.Ring
import Mathlib.Tactic.Linarith
import Mathlib.Tactic.FieldSimp
import Mathlib.Tactic.NormNum
/-! # C14 (linear part) — nice() only widens a domain, by less than two tick steps, to round end points

Stated over ℚ; thresholds and multipliers come from `Gen/Constants.lean` (regenerated from the source). -/
namespace Labella.C14
open Labella Labella.Scale

/-! ### nice (linear) -/

/-- the step never shrinks when the span grows -/
theorem tickStep_mono (s1 s2 m : ℚ) (h1 : 0 < s1) (h12 : s1 ≤ s2) (hm : 0 < m) :
    tickStep s1 m ≤ tickStep s2 m := by
  exact Scale.tickStep_mono s1 s2 m h1 h12 hm

/-- making a domain nice never moves an end inward and keeps the orientation -/
theorem nice_widens (d0 d1 m : ℚ) (hm : 0 < m) :
    (d0 < d1 → (nice d0 d1 m).1 ≤ d0 ∧ d1 ≤ (nice d0 d1 m).2) ∧
    (d1 < d0 → d0 ≤ (nice d0 d1 m).1 ∧ (nice d0 d1 m).2 ≤ d1) := by
  have inc : ∀ a b : ℚ, a < b → (nice a b m).1 ≤ a ∧ b ≤ (nice a b m).2 := fun a b h =>
    have ⟨h1, _, h2⟩ := nice_widened a b m h hm
    ⟨h2.left_le.trans h1.left_le, h1.le_right.trans h2.le_right⟩
  refine ⟨inc d0 d1, fun h => ?_⟩
  rw [nice_swap d0 d1 m]
  exact (inc d1 d0 h).symm

/-- each end moves by less than two tick steps of the resulting domain -/
theorem nice_less_than_two_steps (d0 d1 m : ℚ) (hd : d0 < d1) (hm : 0 < m) :
    let n := nice d0 d1 m
    let step := (tickRange n.1 n.2 m).2.2
    d0 - n.1 < 2 * step ∧ n.2 - d1 < 2 * step := by
  intro n step
  obtain ⟨h1, hp, h2⟩ := nice_widened d0 d1 m hd hm
  have hstep : step = tickStep (n.2 - n.1) m := tickRange_step_of_lt _ _ m (h2.lt hp)
  -- the step of the result is at least the step of either pass
  have m1 := Scale.tickStep_mono _ _ m (sub_pos.mpr hd) h1.span_le hm
  have m2 := Scale.tickStep_mono _ _ m (sub_pos.mpr hp) h2.span_le hm
  rw [hstep]
  constructor
  · linarith [h1.left_lt, h2.left_lt]
  · linarith [h1.right_lt, h2.right_lt]

/-- after the second pass both ends are integer multiples of that pass's step -/
theorem nice_ends_are_multiples (d0 d1 m : ℚ) (hd : d0 < d1) (hm : 0 < m) :
    let p := nicePass d0 d1 m
    let step2 := (tickRange p.1 p.2 m).2.2
    ∃ k0 k1 : Int, (nice d0 d1 m).1 = (k0 : ℚ) * step2 ∧ (nice d0 d1 m).2 = (k1 : ℚ) * step2 := by
  intro p step2
  obtain ⟨-, hp, h2⟩ := nice_widened d0 d1 m hd hm
  have hstep : step2 = tickStep (p.2 - p.1) m := tickRange_step_of_lt _ _ m hp
  rw [hstep]
  exact h2.multiples

/-- both ends of the nice domain are integer multiples of one tenth of the tick step of the nice domain itself -/
theorem nice_ends_multiples_of_tenth_of_final_step (d0 d1 m : ℚ) (hd : d0 < d1) (hm : 1 ≤ m) :
    let n := nice d0 d1 m
    let step := (tickRange n.1 n.2 m).2.2
    ∃ k0 k1 : Int, n.1 = (k0 : ℚ) * (step / 10) ∧ n.2 = (k1 : ℚ) * (step / 10) := by
  exact nice_tenth d0 d1 m hd.ne hm

/-- the same for a descending domain (`nice` keeps the orientation and treats it symmetrically) -/
theorem nice_ends_multiples_of_tenth_of_final_step_desc (d0 d1 m : ℚ) (hd : d1 < d0) (hm : 1 ≤ m) :
    let n := nice d0 d1 m
    let step := (tickRange n.1 n.2 m).2.2
    ∃ k0 k1 : Int, n.1 = (k0 : ℚ) * (step / 10) ∧ n.2 = (k1 : ℚ) * (step / 10) := by
  exact nice_tenth d0 d1 m hd.ne' hm

/-- a descending domain gives the mirrored result -/
theorem nice_desc_eq_swap (d0 d1 m : ℚ) (hd : d1 < d0) (hm : 0 < m) :
    nice d0 d1 m = ((nice d1 d0 m).2, (nice d1 d0 m).1) :=
  nice_swap d0 d1 m

-- non-vacuity: `nice (3/10) (97/10) 10 = (0, 10)`, the final step is 1, the ends are 0 and 100 tenths of it
example : nice (3/10) (97/10) 10 = (0, 10) ∧ (tickRange 0 10 10).2.2 = 1 ∧
    (0 : ℚ) = ((0 : Int) : ℚ) * (1 / 10) ∧ (10 : ℚ) = ((100 : Int) : ℚ) * (1 / 10) := by
  refine ⟨by decide +kernel, by decide +kernel, by norm_num, by norm_num⟩

-- a case where the tenth is needed: `nice (3/2) (5/2) 1 = (0, 4)`, the final step is 5, and `4 = 8 · (5/10)` is no multiple of 5
example : nice (3/2) (5/2) 1 = (0, 4) ∧ (tickRange 0 4 1).2.2 = 5 ∧ (4 : ℚ) = ((8 : Int) : ℚ) * (5 / 10) := by
  refine ⟨by decide +kernel, by decide +kernel, by norm_num⟩

-- `1 ≤ m` cannot be dropped: for `m = 3/4`, `nice (17/2) (21/2) (3/4) = (5, 15)` with final step 20, and 5 is no multiple of 2
example : nice (17/2) (21/2) (3/4) = (5, 15) ∧ (tickRange 5 15 (3/4)).2.2 = 20 := by
  refine ⟨by decide +kernel, by decide +kernel⟩

/-! ### nice (time): see `Props/C16.lean` -/

/-- making a time domain nice never moves an end inward and never reverses its orientation -/
theorem time_nice_widens (d0 d1 : Int) (m : Rat) :
    (d0 ≤ d1 → (Calendar.nice d0 d1 m).1 ≤ d0 ∧ d1 ≤ (Calendar.nice d0 d1 m).2) ∧
    (d1 < d0 → d0 ≤ (Calendar.nice d0 d1 m).1 ∧ (Calendar.nice d0 d1 m).2 ≤ d1) :=
  C16.nice_widens d0 d1 m

/-- with a calendar method both new ends are boundaries of the method's unit: aligned at least as coarsely as the ticks -/
theorem time_nice_on_boundaries (d0 d1 : Int) (m : Rat) (u : Calendar.TUnit) (s : Rat)
    (h : Calendar.tickMethod (min d0 d1) (max d0 d1) m = .cal u s) :
    Calendar.isBoundary u (Calendar.nice d0 d1 m).1 = true ∧ Calendar.isBoundary u (Calendar.nice d0 d1 m).2 = true :=
  C16.nice_on_boundaries d0 d1 m u s h

-- non-vacuity: `nice (3/10) (97/10) 10 = (0, 10)` (evaluated); time: `nice 1000 90000000 10 = (0, 97200000)`
example : Calendar.nice 1000 90000000 10 = (0, 97200000) := by decide +kernel

/-- **C14 (time part) in full** for the model: for every domain and EVERY positive count (whole or fractional) the nice domain satisfies the
complete predicate: ends only move outward, by less than two tick steps (largest gap of the original domain's ticks),
onto boundaries at least as coarse as the tick spacing -/
theorem time_nice_ok (d0 d1 : Int) (m : Rat) (hm : 0 < m) :
    Calendar.niceOKB d0 d1 m (Calendar.nice d0 d1 m).1 (Calendar.nice d0 d1 m).2 = true :=
  C16.nice_ok d0 d1 m hm

end Labella.C14
