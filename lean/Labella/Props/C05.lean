import Labella.Model.QP
import Labella.Proofs.LayoutSep
import Labella.Proofs.QPLemmas
import Labella.Proofs.VpscLoops
import Labella.Proofs.VpscCost
import Labella.Proofs.VpscKKT
import Labella.Proofs.VpscFuel
import Labella.Proofs.VpscResolve
import Labella.Proofs.VpscPath
import Labella.Proofs.VpscPathOpt
import Mathlib.Algebra.Order.Field.Rat
import Mathlib.Algebra.BigOperators.Group.List.Basic
import Mathlib.Tactic.Ring
import Mathlib.Tactic.Linarith
import Mathlib.Tactic.FieldSimp
/-! # C05 — the separation-constraint solver returns a feasible, certified-optimal solution

What is proved for ALL instances (any constraint graph: DAGs, duplicates, redundant constraints, cycles; any
positive weights and any scales): soundness of the executable certificate checker `QP.check`, via weak duality.
What is proved for all CHAIN instances (every instance labella itself builds): the solver model is feasible and
optimal (restated from C02).  For general DAG instances the implementation's result is validated per instance by
the proved checker (see DESIGN.md, C05); the full statement "optimal for every DAG" is FALSE for the code as it is
(known finding F1): `dag_counterexample`.

The rest of the file is about the statement-by-statement transliteration of `vpsc.py` (`Model/Vpsc.lean`, tied to the code
by exact-arithmetic equality of positions, returned cost and flagged constraints on every generated instance); the proofs
are in `Proofs/Vpsc*.lean`.
* Feasibility: `vpsc_solve_feasible`, `vpsc_solve_feasible_qp` hold for ALL constraint graphs, cyclic ones included
  (invariants: active constraints tight, blocks = connected components of the active graph, that graph a forest, block
  membership lists exact and duplicate-free, every constraint active / flagged / listed as inactive).
* Optimality: the returned cost is the cost of the returned positions; if no active constraint is left with a negative
  multiplier the result is optimal (`vpsc_solve_optimal`); if every multiplier passes the solver's own tolerance test it is
  optimal up to a multiple of that tolerance (`vpsc_solve_near_optimal`).
* Fuel: a run with `err = false` does not depend on the fuel, and `err` comes only from the two `while` loops.
* Incremental use (`setDesiredPositions`, then `solve` again on the same object): the same results.
* Paths, and paths with unit scales (what `removeOverlap` builds): `satisfy` terminates; `solve` terminates after two
  passes and is optimal, without any condition (`removeOverlap_layer_solved`). -/
namespace Labella.C05
open Labella Labella.QP

/-- exact feasibility of a candidate `z` -/
def Feasible (I : Inst) (z : List ℚ) : Prop := ∀ c ∈ I.cons, 0 ≤ slack I z c

/-- **Weak duality.**  For multipliers `lam ≥ 0` (one per constraint) the dual value is a lower bound on the cost
of EVERY feasible assignment — whatever the constraint graph. -/
theorem weak_duality (I : Inst) (lam : List ℚ) (hwf : wellFormedB I = true)
    (hlen : lam.length = I.cons.length) (hpos : ∀ l ∈ lam, 0 ≤ l)
    (z : List ℚ) (hz : z.length = I.vars.length) (hfeas : Feasible I z) :
    dualValue I lam ≤ cost I z := by
  have _ := hlen  -- not needed: `zip` truncates, a missing multiplier counts as 0
  have hL := dualValue_le I lam hwf z hz
  have hM := mult_slack_nonneg I lam z hpos hfeas
  linarith

/-- **Soundness of the certificate checker.**  If `check I x lam tolFeas tolGap` accepts — for ANY list `lam`,
wherever it came from — then `x` violates no constraint by more than `tolFeas`, and no feasible assignment
whatsoever costs less than `cost x − tolGap`. -/
theorem check_sound (I : Inst) (x lam : List ℚ) (tolFeas tolGap : ℚ)
    (h : check I x lam tolFeas tolGap = true) :
    (∀ c ∈ I.cons, -tolFeas ≤ slack I x c) ∧
    ∀ z : List ℚ, z.length = I.vars.length → Feasible I z → cost I x ≤ cost I z + tolGap := by
  unfold check at h
  simp only [Bool.and_eq_true, beq_iff_eq, decide_eq_true_eq] at h
  obtain ⟨⟨⟨⟨hwf, _hx⟩, hlam⟩, hfe⟩, hgap⟩ := h
  refine ⟨?_, ?_⟩
  · intro c hc
    unfold feasibleB at hfe
    rw [List.all_eq_true] at hfe
    simpa using hfe c hc
  · intro z hz hfeas
    have hwd := weak_duality I (clip lam) hwf (by rw [clip_length, hlam]) (clip_nonneg lam) z hz hfeas
    unfold gap at hgap
    linarith

/-- known finding F1 (witness replayed on the real code by the C05 check): on this 5-variable DAG with redundant
tight constraints `solve()` returns `xRet` (cost 5·10⁹ + 125), although `xBetter` is feasible and costs 156 -/
theorem dag_counterexample :
    let I : Inst := { vars := [⟨9, 10000000000, 1⟩, ⟨10, 1, 1⟩, ⟨9, 10, 1⟩, ⟨7, 10000000000, 1⟩, ⟨0, 1, 1⟩],
                      cons := [⟨2, 3, 0⟩, ⟨1, 4, 3⟩, ⟨0, 4, 1⟩, ⟨2, 4, 2⟩, ⟨1, 2, 1⟩] }
    let xRet : List ℚ := [170000000111/20000000012, 130000000087/20000000012, 150000000099/20000000012,
                          150000000099/20000000012, 190000000123/20000000012]
    let xBetter : List ℚ := [9, 6, 7, 7, 10]
    feasibleB I 0 xRet = true ∧ feasibleB I 0 xBetter = true ∧ cost I xBetter = 156 ∧ cost I xBetter < cost I xRet := by
  decide +kernel

/-- … and the certificate checker accepts the optimum that two further `satisfy()` passes reach, with the
multipliers the code itself computes: that placement is therefore PROVED optimal for this instance -/
theorem dag_counterexample_certified :
    let I : Inst := { vars := [⟨9, 10000000000, 1⟩, ⟨10, 1, 1⟩, ⟨9, 10, 1⟩, ⟨7, 10000000000, 1⟩, ⟨0, 1, 1⟩],
                      cons := [⟨2, 3, 0⟩, ⟨1, 4, 3⟩, ⟨0, 4, 1⟩, ⟨2, 4, 2⟩, ⟨1, 2, 1⟩] }
    check I [89999999999/10000000001, 20000000030/3333333337, 23333333367/3333333337, 23333333367/3333333337, 100000000000/10000000001]
            [160000000000/3333333337, 0, 200000000000/10000000001, 0, 26666666680/3333333337] 0 0 = true := by
  decide +kernel

/-- every chain instance (what `removeOverlap` builds): the solver model's result keeps every gap up to eps and
no placement that keeps the gaps exactly is cheaper (C02) -/
theorem chain_instances (eps : ℚ) (heps : 0 ≤ eps) (vars : List Chain.Item) (gaps : List ℚ)
    (hlen : gaps.length + 1 = vars.length) (hw : ∀ v ∈ vars, 0 < v.w) :
    Chain.SepBy eps gaps (Chain.solve eps vars gaps) ∧
    ∀ zs : List ℚ, zs.length = vars.length → Chain.SepBy 0 gaps zs →
      Chain.cost vars (Chain.solve eps vars gaps) ≤ Chain.cost vars zs := by
  refine ⟨Chain.solve_feasible' eps heps vars gaps hw, ?_⟩
  intro zs hz hfeas
  have h1 := Chain.solve_optimal' eps heps vars gaps hlen hw zs hz hfeas
  have h2 := Layout.wdist_nonneg (fun v hv => (hw v hv).le) (Chain.solve eps vars gaps) zs
  linarith


/-! ## the general solver (transliteration of `vpsc.py`): feasibility on exit and conditional optimality, for every constraint graph -/

def qpInst (vars : List (Rat × Rat × Rat)) (cons : List (Nat × Nat × Rat)) : QP.Inst :=
  { vars := vars.map fun p => { d := p.1, w := p.2.1, s := p.2.2 }, cons := cons.map fun c => { l := c.1, r := c.2.1, g := c.2.2 } }

/-- C05 (feasibility half) for the transliterated solver, for ALL constraint graphs, cyclic ones included: when `solve` returns (no fuel
exhausted), every constraint it has not flagged unsatisfiable holds up to the solver's own tolerance, and the returned number is the cost of the returned state -/
theorem vpsc_solve_feasible (vars : List (Rat × Rat × Rat)) (cons : List (Nat × Nat × Rat))
    (hidx : ∀ c ∈ cons, c.1 < vars.length ∧ c.2.1 < vars.length) (hs : ∀ v ∈ vars, v.2.2 ≠ 0) (fuel sfuel : Nat)
    (herr : (Vpsc.solve fuel sfuel (Vpsc.init vars cons)).1.err = false) :
    (∀ ci, ci < cons.length → (Vpsc.getC (Vpsc.solve fuel sfuel (Vpsc.init vars cons)).1 ci).unsat = false →
        Gen.zeroUpperBound ≤ Vpsc.slack (Vpsc.solve fuel sfuel (Vpsc.init vars cons)).1 ci) ∧
    (Vpsc.solve fuel sfuel (Vpsc.init vars cons)).2 = Vpsc.cost (Vpsc.solve fuel sfuel (Vpsc.init vars cons)).1 := by
  have g := Vpsc.solve_init_good vars cons hidx hs fuel sfuel herr
  exact ⟨fun ci hci hu => g.feas ci (by rw [g.data.csize]; exact hci) hu, g.cost⟩

/-- the same in the vocabulary of the optimisation problem `QP`: the returned positions satisfy every unflagged constraint of the instance up to `-ZERO_UPPERBOUND` -/
theorem vpsc_solve_feasible_qp (vars : List (Rat × Rat × Rat)) (cons : List (Nat × Nat × Rat))
    (hidx : ∀ c ∈ cons, c.1 < vars.length ∧ c.2.1 < vars.length) (hs : ∀ v ∈ vars, v.2.2 ≠ 0) (fuel sfuel : Nat)
    (herr : (Vpsc.solve fuel sfuel (Vpsc.init vars cons)).1.err = false) :
    let st := (Vpsc.solve fuel sfuel (Vpsc.init vars cons)).1
    let I := qpInst vars cons
    QP.feasibleB { I with cons := (I.cons.zipIdx.filter (fun p => !(Vpsc.flagged st).contains p.2)).map (·.1) }
      (-Gen.zeroUpperBound) (Vpsc.positions st) = true := by
  intro st I
  have g := Vpsc.solve_init_good vars cons hidx hs fuel sfuel herr
  have hI : I = Vpsc.instOf st := g.data.instOf.symm
  clear_value I
  subst hI
  exact Vpsc.feasibleB_unflagged st g.inv2.inv.wf g.feas

/-- non-vacuity: two variables wanted at 0 that must be 2 apart end at −1 and 1 (cost 2), no fuel runs out, nothing is flagged -/
example : (Vpsc.solve 10 10 (Vpsc.init [(0, 1, 1), (0, 1, 1)] [(0, 1, 2)])).1.err = false ∧
    Vpsc.positions (Vpsc.solve 10 10 (Vpsc.init [(0, 1, 1), (0, 1, 1)] [(0, 1, 2)])).1 = [-1, 1] ∧
    Vpsc.flagged (Vpsc.solve 10 10 (Vpsc.init [(0, 1, 1), (0, 1, 1)] [(0, 1, 2)])).1 = [] ∧
    (Vpsc.solve 10 10 (Vpsc.init [(0, 1, 1), (0, 1, 1)] [(0, 1, 2)])).2 = 2 := by decide +kernel

/-- non-vacuity on a cyclic instance (`x₁ ≥ x₀ + 1` and `x₀ ≥ x₁ + 1`): the run ends without error, the second constraint is flagged -/
example : (Vpsc.solve 10 10 (Vpsc.init [(0, 1, 1), (0, 1, 1)] [(0, 1, 1), (1, 0, 1)])).1.err = false ∧
    Vpsc.positions (Vpsc.solve 10 10 (Vpsc.init [(0, 1, 1), (0, 1, 1)] [(0, 1, 1), (1, 0, 1)])).1 = [-1 / 2, 1 / 2] ∧
    Vpsc.flagged (Vpsc.solve 10 10 (Vpsc.init [(0, 1, 1), (0, 1, 1)] [(0, 1, 1), (1, 0, 1)])).1 = [1] := Vpsc.cyclic_run


/-- the number `solve` returns is the weighted squared displacement of the positions it returns (cost of the QP instance at the reported positions) -/
theorem vpsc_returned_cost_is_cost_of_positions (vars : List (Rat × Rat × Rat)) (cons : List (Nat × Nat × Rat))
    (hidx : ∀ c ∈ cons, c.1 < vars.length ∧ c.2.1 < vars.length) (hs : ∀ v ∈ vars, v.2.2 ≠ 0) (fuel sfuel : Nat)
    (herr : (Vpsc.solve fuel sfuel (Vpsc.init vars cons)).1.err = false) :
    (Vpsc.solve fuel sfuel (Vpsc.init vars cons)).2 = QP.cost (qpInst vars cons) (Vpsc.positions (Vpsc.solve fuel sfuel (Vpsc.init vars cons)).1) := by
  have g := Vpsc.solve_init_good vars cons hidx hs fuel sfuel herr
  rw [g.cost, Vpsc.cost_eq_qp _ g.inv2, g.data.instOf]
  rfl


/-- the QP instance read off the state `solve` returns is the instance that was given to `init` (the problem data never change) -/
theorem instOf_solve (vars : List (Rat × Rat × Rat)) (cons : List (Nat × Nat × Rat))
    (hidx : ∀ c ∈ cons, c.1 < vars.length ∧ c.2.1 < vars.length) (hs : ∀ v ∈ vars, v.2.2 ≠ 0) (fuel sfuel : Nat)
    (herr : (Vpsc.solve fuel sfuel (Vpsc.init vars cons)).1.err = false) :
    Vpsc.instOf (Vpsc.solve fuel sfuel (Vpsc.init vars cons)).1 = qpInst vars cons :=
  (Vpsc.solve_init_good vars cons hidx hs fuel sfuel herr).data.instOf

/-- **C05 (optimality half) for the transliterated solver, conditional on the solver's own exit test.**  If, in the state `solve`
returns, no active constraint carries a negative Lagrange multiplier (so `Blocks.split` has nothing left to split), then the
returned positions minimise the weighted squared displacement among ALL placements that satisfy every constraint — for any
constraint graph.  (Known finding F1 is exactly a run that ends with a negative multiplier pending.) -/
theorem vpsc_solve_optimal (vars : List (Rat × Rat × Rat)) (cons : List (Nat × Nat × Rat))
    (hidx : ∀ c ∈ cons, c.1 < vars.length ∧ c.2.1 < vars.length) (hs : ∀ v ∈ vars, v.2.2 ≠ 0)
    (hw : ∀ v ∈ vars, 0 < v.2.1) (fuel sfuel : Nat)
    (herr : (Vpsc.solve fuel sfuel (Vpsc.init vars cons)).1.err = false)
    (herr2 : (Vpsc.lmState (Vpsc.solve fuel sfuel (Vpsc.init vars cons)).1).err = false)
    (hpos : ∀ l ∈ Vpsc.multipliers (Vpsc.solve fuel sfuel (Vpsc.init vars cons)).1, 0 ≤ l)
    (z : List Rat) (hz : z.length = vars.length) (hfeas : Feasible (qpInst vars cons) z) :
    cost (qpInst vars cons) (Vpsc.positions (Vpsc.solve fuel sfuel (Vpsc.init vars cons)).1) ≤ cost (qpInst vars cons) z := by
  have g := Vpsc.solve_init_good vars cons hidx hs fuel sfuel herr
  have hI := instOf_solve vars cons hidx hs fuel sfuel herr
  have := Vpsc.vpsc_optimal_of_nonneg_multipliers _ g.inv2 (g.data.posW hw) herr2 hpos z (hz.trans g.data.vsize.symm)
    (by rw [hI]; exact hfeas)
  rwa [hI] at this

/-- the same with the solver's tolerance: if every multiplier is `≥ LAGRANGIAN_TOLERANCE` (the test `Blocks.split` applies), the
returned positions are optimal up to `−LAGRANGIAN_TOLERANCE` times the total slack the competitor leaves on the constraints whose
multiplier is negative -/
theorem vpsc_solve_near_optimal (vars : List (Rat × Rat × Rat)) (cons : List (Nat × Nat × Rat))
    (hidx : ∀ c ∈ cons, c.1 < vars.length ∧ c.2.1 < vars.length) (hs : ∀ v ∈ vars, v.2.2 ≠ 0)
    (hw : ∀ v ∈ vars, 0 < v.2.1) (fuel sfuel : Nat)
    (herr : (Vpsc.solve fuel sfuel (Vpsc.init vars cons)).1.err = false)
    (herr2 : (Vpsc.lmState (Vpsc.solve fuel sfuel (Vpsc.init vars cons)).1).err = false)
    (htol : ∀ l ∈ Vpsc.multipliers (Vpsc.solve fuel sfuel (Vpsc.init vars cons)).1, Gen.lagrangianTolerance ≤ l)
    (z : List Rat) (hz : z.length = vars.length) (hfeas : Feasible (qpInst vars cons) z) :
    cost (qpInst vars cons) (Vpsc.positions (Vpsc.solve fuel sfuel (Vpsc.init vars cons)).1) ≤
      cost (qpInst vars cons) z + (-Gen.lagrangianTolerance) *
        (((qpInst vars cons).cons.zip (Vpsc.multipliers (Vpsc.solve fuel sfuel (Vpsc.init vars cons)).1)).map
          fun p => if p.2 < 0 then slack (qpInst vars cons) z p.1 else 0).sum := by
  have g := Vpsc.solve_init_good vars cons hidx hs fuel sfuel herr
  have hI := instOf_solve vars cons hidx hs fuel sfuel herr
  have := Vpsc.vpsc_near_optimal_of_tolerance _ g.inv2 (g.data.posW hw) herr2 htol z (hz.trans g.data.vsize.symm)
    (by rw [hI]; exact hfeas)
  rwa [hI] at this

/-- non-vacuity of `vpsc_solve_optimal`: three variables wanted at 0, 0, 3 with `x₁ ≥ x₀ + 2`, `x₂ ≥ x₁ + 2`: no fuel runs out, the
multipliers are nonnegative, so the returned placement is THE optimum -/
example : (Vpsc.solve 10 20 (Vpsc.init [(0, 1, 1), (0, 1, 1), (3, 1, 1)] [(0, 1, 2), (1, 2, 2)])).1.err = false ∧
    (Vpsc.lmState (Vpsc.solve 10 20 (Vpsc.init [(0, 1, 1), (0, 1, 1), (3, 1, 1)] [(0, 1, 2), (1, 2, 2)])).1).err = false ∧
    (∀ l ∈ Vpsc.multipliers (Vpsc.solve 10 20 (Vpsc.init [(0, 1, 1), (0, 1, 1), (3, 1, 1)] [(0, 1, 2), (1, 2, 2)])).1, 0 ≤ l) := by
  decide +kernel

/-! ## fuel is immaterial: `err` can only come from the two open-ended loops (`satisfyLoop`, `solveLoop`)

The model gives every recursion and loop a fuel argument and sets `err` when it runs out.  Proved in `Proofs/VpscLoops.lean`, `Proofs/VpscFuel.lean`:
* in a state that satisfies the invariants the tree traversals (`computeLm`, `findPath`, `isActiveDirectedPathBetween`,
  `populateSplitBlock` inside `Block.split`) never exhaust their fuel `travFuel st = st.vs.size + 2` — the active graph is a forest,
  so a traversal that never walks straight back follows a simple path, which has at most `vs.size` variables — and the split pass
  `Blocks.split` never exhausts its fuel `list.size + 3` (the list it iterates over grows by two entries at most once);
* a run that ended with `err = false` does not depend on the fuel it was given (pure fuel induction, no invariant). -/

/-- Fuel monotonicity of `satisfy`, for ANY state: a pass that ended with `err = false` returns the very same state with any
larger fuel; hence if it raises `err` with some fuel it raises it with every smaller fuel -/
theorem satisfy_fuel_mono (sfuel : Nat) (st : Vpsc.St) :
    ((Vpsc.satisfy sfuel st).err = false → ∀ sfuel', sfuel ≤ sfuel' → Vpsc.satisfy sfuel' st = Vpsc.satisfy sfuel st) ∧
    ((Vpsc.satisfy sfuel st).err = true → ∀ sfuel', sfuel' ≤ sfuel → (Vpsc.satisfy sfuel' st).err = true) :=
  ⟨Vpsc.satisfy_fuel_mono sfuel st, Vpsc.satisfy_err_antimono sfuel st⟩

/-- In a state that satisfies the invariants (`Inv2`, `Covered`, `err = false`), `err` after `satisfy sfuel` comes from the
`while` loop of `satisfy` running out of its fuel and from nowhere else (no traversal, no `Block.split`, not the split pass):
`satisfy sfuel` raises `err` if and only if the test of the `while` statement (`Vpsc.satCond`: the most violated constraint is
violated by more than the tolerance and inactive) is still true at the start of each of the first `sfuel` iterations of the loop
body (`Vpsc.satIter`, defined without any loop fuel).  When the test first fails at iteration `k`, every fuel `> k` returns the state
of that iteration. -/
theorem satisfy_err_only_from_loop (st : Vpsc.St) (h : Vpsc.Inv2 st) (hcov : Vpsc.Covered st none) (herr : st.err = false)
    (sfuel : Nat) :
    ((Vpsc.satisfy sfuel st).err = true ↔ ∀ k, k < sfuel → Vpsc.satCond (Vpsc.satIter k (Vpsc.satStart st)) = true) ∧
    (∀ k, k < sfuel → (∀ j, j < k → Vpsc.satCond (Vpsc.satIter j (Vpsc.satStart st)) = true) →
      Vpsc.satCond (Vpsc.satIter k (Vpsc.satStart st)) = false →
      Vpsc.satisfy sfuel st = (Vpsc.satIter k (Vpsc.satStart st)).1) ∧
    ((Vpsc.satisfy sfuel st).err = true → ∀ sfuel', sfuel' ≤ sfuel → (Vpsc.satisfy sfuel' st).err = true) ∧
    ((Vpsc.satisfy sfuel st).err = false → ∀ sfuel', sfuel ≤ sfuel' → Vpsc.satisfy sfuel' st = Vpsc.satisfy sfuel st) :=
  ⟨Vpsc.satisfy_err_iff sfuel st h hcov herr, fun k hk => Vpsc.satisfy_eq_iter sfuel st h hcov herr k hk,
    Vpsc.satisfy_err_antimono sfuel st, Vpsc.satisfy_fuel_mono sfuel st⟩

/-- Fuel monotonicity of `solve`, for ANY state: a run that ended with `err = false` returns the very same state and cost with
any larger fuels (so every C05 theorem stated for "a run with `err = false`" speaks about THE result of the fuel-free algorithm);
hence if it raises `err` it raises it with all smaller fuels -/
theorem solve_fuel_mono (fuel sfuel : Nat) (st : Vpsc.St) :
    ((Vpsc.solve fuel sfuel st).1.err = false →
      ∀ fuel', fuel ≤ fuel' → ∀ sfuel', sfuel ≤ sfuel' → Vpsc.solve fuel' sfuel' st = Vpsc.solve fuel sfuel st) ∧
    ((Vpsc.solve fuel sfuel st).1.err = true →
      ∀ fuel', fuel' ≤ fuel → ∀ sfuel', sfuel' ≤ sfuel → (Vpsc.solve fuel' sfuel' st).1.err = true) :=
  ⟨Vpsc.solve_fuel_mono fuel sfuel st, Vpsc.solve_err_antimono fuel sfuel st⟩

/-- If `solve fuel sfuel` raises `err` from a state that satisfies the invariants, then either one of
its `satisfy` passes — entered in a state that satisfies all invariants and has `err = false` — found the test of its `while` loop
true at the start of each of its `sfuel` iterations, or the test of the `while` loop of `solve` (`|lastcost − cost| > 0.0001`) was
true at the start of each of its `fuel` iterations. -/
theorem solve_err_only_from_loops (fuel sfuel : Nat) (st : Vpsc.St) (h : Vpsc.Inv2 st) (hcov : Vpsc.Covered st none)
    (herr : st.err = false) (he : (Vpsc.solve fuel sfuel st).1.err = true) :
    (∃ st', Vpsc.Inv2 st' ∧ Vpsc.Covered st' none ∧ st'.err = false ∧
        ∀ k, k < sfuel → Vpsc.satCond (Vpsc.satIter k (Vpsc.satStart st')) = true) ∨
    (∀ k, k < fuel → Vpsc.solveCond (Vpsc.solveIter sfuel k (Vpsc.solveStart sfuel st)) = true) :=
  Vpsc.solve_err_only_from_loops fuel sfuel st h hcov herr he

/-- the two statements for the solver's initial state: the result of `solve` on an instance does not depend on the fuels once they
suffice, and `err` on an instance can only mean that one of the two `while` loops was still running when its fuel ran out -/
theorem vpsc_solve_fuel_immaterial (vars : List (Rat × Rat × Rat)) (cons : List (Nat × Nat × Rat))
    (hidx : ∀ c ∈ cons, c.1 < vars.length ∧ c.2.1 < vars.length) (hs : ∀ v ∈ vars, v.2.2 ≠ 0) (fuel sfuel : Nat) :
    ((Vpsc.solve fuel sfuel (Vpsc.init vars cons)).1.err = false →
      ∀ fuel', fuel ≤ fuel' → ∀ sfuel', sfuel ≤ sfuel' →
        Vpsc.solve fuel' sfuel' (Vpsc.init vars cons) = Vpsc.solve fuel sfuel (Vpsc.init vars cons)) ∧
    ((Vpsc.solve fuel sfuel (Vpsc.init vars cons)).1.err = true →
      (∃ st', Vpsc.Inv2 st' ∧ Vpsc.Covered st' none ∧ st'.err = false ∧
          ∀ k, k < sfuel → Vpsc.satCond (Vpsc.satIter k (Vpsc.satStart st')) = true) ∨
      (∀ k, k < fuel → Vpsc.solveCond (Vpsc.solveIter sfuel k (Vpsc.solveStart sfuel (Vpsc.init vars cons))) = true)) := by
  obtain ⟨hI2, hcov⟩ := Vpsc.init_inv2 vars cons hidx hs
  exact ⟨Vpsc.solve_fuel_mono fuel sfuel _,
    Vpsc.solve_err_only_from_loops fuel sfuel _ hI2 hcov (Vpsc.init_err vars cons)⟩

/-- the hypothesis `herr2` of `vpsc_solve_optimal` / `vpsc_solve_near_optimal` (recomputing the multipliers raises no `err`) follows
from `herr`: the traversals have enough fuel -/
theorem vpsc_lmState_noerr (vars : List (Rat × Rat × Rat)) (cons : List (Nat × Nat × Rat))
    (hidx : ∀ c ∈ cons, c.1 < vars.length ∧ c.2.1 < vars.length) (hs : ∀ v ∈ vars, v.2.2 ≠ 0) (fuel sfuel : Nat)
    (herr : (Vpsc.solve fuel sfuel (Vpsc.init vars cons)).1.err = false) :
    (Vpsc.lmState (Vpsc.solve fuel sfuel (Vpsc.init vars cons)).1).err = false := by
  have g := Vpsc.solve_init_good vars cons hidx hs fuel sfuel herr
  exact Vpsc.lmState_noerr _ g.inv2.inv g.inv2.list herr

/-- non-vacuity: on the cyclic two-variable instance, `solve 10 10` ends without `err`, hence every larger fuel returns the same result;
with `sfuel = 0` the `satisfy` loop is cut off at once and `err` is raised -/
example : (Vpsc.solve 10 10 (Vpsc.init [(0, 1, 1), (0, 1, 1)] [(0, 1, 1), (1, 0, 1)])).1.err = false ∧
    (Vpsc.solve 10 0 (Vpsc.init [(0, 1, 1), (0, 1, 1)] [(0, 1, 1), (1, 0, 1)])).1.err = true :=
  ⟨Vpsc.cyclic_run.1, by decide +kernel⟩


/-! ## incremental use: the SAME solver object is given new desired positions and solved again (`setDesiredPositions`; `solve`)

`Vpsc.resolve fuel sfuel st pss` = `solve`, then for every list `ps` of `pss`: `setDesired ps; solve`, all on one state (the blocks, the
active constraints, the unsatisfiable flags and the pending list of the earlier solves stay; block positions are recomputed from the new
targets at the start of the next `Blocks.split`). -/

/-- the problem data after the target updates: weights, scales and constraints as given, desired positions overwritten list by list -/
def targetsAfter (vars : List (Rat × Rat × Rat)) (pss : List (List Rat)) : List (Rat × Rat × Rat) :=
  pss.foldl (fun vs ps => vs.zipIdx.map (fun (p : (Rat × Rat × Rat) × Nat) => (ps.getD p.2 p.1.1, p.1.2.1, p.1.2.2))) vars

theorem targetsAfter_eq (vars : List (Rat × Rat × Rat)) (pss : List (List Rat)) :
    targetsAfter vars pss = pss.foldl Vpsc.retarget vars := rfl

/-- C05 (feasibility half) after ANY number of target updates and re-solves on one solver, for ALL constraint graphs: when the last `solve`
returns (no fuel exhausted), every constraint not flagged unsatisfiable holds up to the solver's tolerance, and the returned number is the
cost of the returned state -/
theorem vpsc_resolve_feasible (vars : List (Rat × Rat × Rat)) (cons : List (Nat × Nat × Rat))
    (hidx : ∀ c ∈ cons, c.1 < vars.length ∧ c.2.1 < vars.length) (hs : ∀ v ∈ vars, v.2.2 ≠ 0) (fuel sfuel : Nat)
    (pss : List (List Rat))
    (herr : (Vpsc.resolve fuel sfuel (Vpsc.init vars cons) pss).1.err = false) :
    (∀ ci, ci < cons.length → (Vpsc.getC (Vpsc.resolve fuel sfuel (Vpsc.init vars cons) pss).1 ci).unsat = false →
        Gen.zeroUpperBound ≤ Vpsc.slack (Vpsc.resolve fuel sfuel (Vpsc.init vars cons) pss).1 ci) ∧
    (Vpsc.resolve fuel sfuel (Vpsc.init vars cons) pss).2 = Vpsc.cost (Vpsc.resolve fuel sfuel (Vpsc.init vars cons) pss).1 := by
  have g := Vpsc.resolve_good vars cons hidx hs fuel sfuel pss herr
  exact ⟨fun ci hci hu => g.feas ci (by rw [g.data.csize]; exact hci) hu, g.cost⟩

/-- the QP instance read off the final state is the given instance with the desired positions as last set -/
theorem instOf_resolve (vars : List (Rat × Rat × Rat)) (cons : List (Nat × Nat × Rat))
    (hidx : ∀ c ∈ cons, c.1 < vars.length ∧ c.2.1 < vars.length) (hs : ∀ v ∈ vars, v.2.2 ≠ 0) (fuel sfuel : Nat)
    (pss : List (List Rat))
    (herr : (Vpsc.resolve fuel sfuel (Vpsc.init vars cons) pss).1.err = false) :
    Vpsc.instOf (Vpsc.resolve fuel sfuel (Vpsc.init vars cons) pss).1 = qpInst (targetsAfter vars pss) cons :=
  (Vpsc.resolve_good vars cons hidx hs fuel sfuel pss herr).data.instOf

/-- the number the last `solve` returns is the weighted squared displacement of the returned positions from the targets as LAST set -/
theorem vpsc_resolve_returned_cost (vars : List (Rat × Rat × Rat)) (cons : List (Nat × Nat × Rat))
    (hidx : ∀ c ∈ cons, c.1 < vars.length ∧ c.2.1 < vars.length) (hs : ∀ v ∈ vars, v.2.2 ≠ 0) (fuel sfuel : Nat)
    (pss : List (List Rat))
    (herr : (Vpsc.resolve fuel sfuel (Vpsc.init vars cons) pss).1.err = false) :
    (Vpsc.resolve fuel sfuel (Vpsc.init vars cons) pss).2 =
      QP.cost (qpInst (targetsAfter vars pss) cons) (Vpsc.positions (Vpsc.resolve fuel sfuel (Vpsc.init vars cons) pss).1) := by
  have g := Vpsc.resolve_good vars cons hidx hs fuel sfuel pss herr
  rw [g.cost, Vpsc.cost_eq_qp _ g.inv2, g.data.instOf]
  rfl

/-- **C05 (optimality half) after target updates, conditional on the solver's own exit test**: if no active constraint carries a negative
multiplier in the final state, the returned positions minimise the weighted squared displacement FROM THE TARGETS AS LAST SET among all
placements satisfying every constraint (what the earlier solves left in the solver does not matter) -/
theorem vpsc_resolve_optimal (vars : List (Rat × Rat × Rat)) (cons : List (Nat × Nat × Rat))
    (hidx : ∀ c ∈ cons, c.1 < vars.length ∧ c.2.1 < vars.length) (hs : ∀ v ∈ vars, v.2.2 ≠ 0)
    (hw : ∀ v ∈ vars, 0 < v.2.1) (fuel sfuel : Nat) (pss : List (List Rat))
    (herr : (Vpsc.resolve fuel sfuel (Vpsc.init vars cons) pss).1.err = false)
    (herr2 : (Vpsc.lmState (Vpsc.resolve fuel sfuel (Vpsc.init vars cons) pss).1).err = false)
    (hpos : ∀ l ∈ Vpsc.multipliers (Vpsc.resolve fuel sfuel (Vpsc.init vars cons) pss).1, 0 ≤ l)
    (z : List Rat) (hz : z.length = vars.length) (hfeas : Feasible (qpInst (targetsAfter vars pss) cons) z) :
    cost (qpInst (targetsAfter vars pss) cons) (Vpsc.positions (Vpsc.resolve fuel sfuel (Vpsc.init vars cons) pss).1) ≤
      cost (qpInst (targetsAfter vars pss) cons) z := by
  have hI := instOf_resolve vars cons hidx hs fuel sfuel pss herr
  have g := Vpsc.resolve_good vars cons hidx hs fuel sfuel pss herr
  have := Vpsc.vpsc_optimal_of_nonneg_multipliers _ g.inv2 (g.data.posW (Vpsc.retarget_weights hw pss)) herr2 hpos z
    (hz.trans (g.data.vsize.trans (Vpsc.foldl_retarget_snd pss vars).1).symm) (by rw [hI]; exact hfeas)
  rwa [hI] at this

/-- non-vacuity: three variables wanted at 0, 0, 0 with `x₀ + 2 ≤ x₁`, `x₁ + 2 ≤ x₂` are solved (−2, 0, 2); the targets are set to 10, 0, −10
and the SAME solver solves again: the block stays, same positions, cost 12² + 0 + 12² = 288; then the targets are set to 0, 5, 20 (both
constraints slack: the block must split twice) and it solves again: every variable sits on its target, cost 0.  No fuel runs out, nothing is
flagged. -/
example :
    (Vpsc.resolve 10 20 (Vpsc.init [(0, 1, 1), (0, 1, 1), (0, 1, 1)] [(0, 1, 2), (1, 2, 2)]) [[10, 0, -10]]).1.err = false ∧
    Vpsc.positions (Vpsc.resolve 10 20 (Vpsc.init [(0, 1, 1), (0, 1, 1), (0, 1, 1)] [(0, 1, 2), (1, 2, 2)]) [[10, 0, -10]]).1 = [-2, 0, 2] ∧
    (Vpsc.resolve 10 20 (Vpsc.init [(0, 1, 1), (0, 1, 1), (0, 1, 1)] [(0, 1, 2), (1, 2, 2)]) [[10, 0, -10]]).2 = 288 ∧
    (Vpsc.resolve 10 20 (Vpsc.init [(0, 1, 1), (0, 1, 1), (0, 1, 1)] [(0, 1, 2), (1, 2, 2)]) [[10, 0, -10], [0, 5, 20]]).1.err = false ∧
    Vpsc.positions (Vpsc.resolve 10 20 (Vpsc.init [(0, 1, 1), (0, 1, 1), (0, 1, 1)] [(0, 1, 2), (1, 2, 2)]) [[10, 0, -10], [0, 5, 20]]).1
      = [0, 5, 20] ∧
    (Vpsc.resolve 10 20 (Vpsc.init [(0, 1, 1), (0, 1, 1), (0, 1, 1)] [(0, 1, 2), (1, 2, 2)]) [[10, 0, -10], [0, 5, 20]]).2 = 0 ∧
    Vpsc.flagged (Vpsc.resolve 10 20 (Vpsc.init [(0, 1, 1), (0, 1, 1), (0, 1, 1)] [(0, 1, 2), (1, 2, 2)]) [[10, 0, -10], [0, 5, 20]]).1 = [] ∧
    targetsAfter [(0, 1, 1), (0, 1, 1), (0, 1, 1)] [[10, 0, -10], [0, 5, 20]] = [(0, 1, 1), (5, 1, 1), (20, 1, 1)] := by
  obtain ⟨h1, h2, h3, h4, h5, h6, h7⟩ := Vpsc.resolve_run.1
  exact ⟨h1, h2, h3, h4, h5, h6, h7, by decide +kernel⟩

/-- non-vacuity of `vpsc_resolve_optimal`: in the same run, after the first update (targets 10, 0, −10) the multipliers are 24, 24, after the
second (targets 0, 5, 20) they are 0, 0 (no constraint active): recomputing them raises no `err` and none is negative, so the theorem applies
to both re-solves -/
example :
    (Vpsc.lmState (Vpsc.resolve 10 20 (Vpsc.init [(0, 1, 1), (0, 1, 1), (0, 1, 1)] [(0, 1, 2), (1, 2, 2)]) [[10, 0, -10]]).1).err = false ∧
    Vpsc.multipliers (Vpsc.resolve 10 20 (Vpsc.init [(0, 1, 1), (0, 1, 1), (0, 1, 1)] [(0, 1, 2), (1, 2, 2)]) [[10, 0, -10]]).1 = [24, 24] ∧
    (Vpsc.lmState (Vpsc.resolve 10 20 (Vpsc.init [(0, 1, 1), (0, 1, 1), (0, 1, 1)] [(0, 1, 2), (1, 2, 2)]) [[10, 0, -10], [0, 5, 20]]).1).err
      = false ∧
    Vpsc.multipliers (Vpsc.resolve 10 20 (Vpsc.init [(0, 1, 1), (0, 1, 1), (0, 1, 1)] [(0, 1, 2), (1, 2, 2)]) [[10, 0, -10], [0, 5, 20]]).1
      = [0, 0] :=
  Vpsc.resolve_run.2


/-! ## termination of `satisfy` on path graphs — the instances `removeOverlap` builds

`removeOverlap` hands the solver the variables `[left wall,] label₀ … label_k [, right wall]` and one constraint between each pair of
neighbours: a path.  On a path the `while` loop of `Solver.satisfy` only ever MERGES two different blocks (an inactive violated
constraint whose two ends lie in one block would need a second active route between two neighbours, and a path has none), so it ends
after fewer iterations than there are variables: the loop fuel cannot run out, and `err` can only come from the outer loop of `solve`. -/

/-- every constraint joins two consecutive variables `i`, `i + 1`, and no two constraints join the same pair -/
def IsPath (st : Vpsc.St) : Prop :=
  (∀ c, c < st.cs.size → (Vpsc.getC st c).r = (Vpsc.getC st c).l + 1 ∧ (Vpsc.getC st c).r < st.vs.size) ∧
  ∀ c c', c < st.cs.size → c' < st.cs.size → (Vpsc.getC st c).l = (Vpsc.getC st c').l → c = c'

/-- on a path, in any state that satisfies the invariants, a `satisfy` pass with more loop fuel than there are variables finishes -/
theorem path_satisfy_terminates (st : Vpsc.St) (h : Vpsc.Inv2 st) (hcov : Vpsc.Covered st none) (herr : st.err = false)
    (hp : IsPath st) (sfuel : Nat) (hf : st.vs.size < sfuel) :
    (Vpsc.satisfy sfuel st).err = false :=
  Vpsc.path_satisfy_noerr st h hcov herr hp sfuel hf

/-- hence for the instances `removeOverlap` builds: `solve` can raise `err` only because the test of its OUTER loop
(`|lastcost − cost| > 0.0001`) was still true at the start of each of its `fuel` iterations -/
theorem path_solve_err_only_outer (vars : List (Rat × Rat × Rat)) (cons : List (Nat × Nat × Rat))
    (hidx : ∀ c ∈ cons, c.1 < vars.length ∧ c.2.1 < vars.length) (hs : ∀ v ∈ vars, v.2.2 ≠ 0)
    (hpath : ∀ c ∈ cons, c.2.1 = c.1 + 1) (hnd : (cons.map (·.1)).Nodup) (fuel sfuel : Nat) (hf : vars.length < sfuel)
    (he : (Vpsc.solve fuel sfuel (Vpsc.init vars cons)).1.err = true) :
    ∀ k, k < fuel → Vpsc.solveCond (Vpsc.solveIter sfuel k (Vpsc.solveStart sfuel (Vpsc.init vars cons))) = true := by
  obtain ⟨hI2, hcov⟩ := Vpsc.init_inv2 vars cons hidx hs
  exact Vpsc.path_solve_err_outer fuel sfuel _ hI2 hcov (Vpsc.init_err vars cons)
    (Vpsc.init_isPathSt vars cons hidx hs hpath hnd) ((Vpsc.init_data vars cons hidx hs).vsize ▸ hf) he

/-- non-vacuity: a wall-like heavy first variable (weight 10⁶) followed by three labels wanted at 1, 1, 2 with gaps 3 between neighbours is a path
instance (hypotheses `hidx`, `hs`, `hpath`, `hnd` hold), `5 > 4` is enough loop fuel, and `solve` ends without `err`; with too little loop
fuel (`sfuel = 1`) the `satisfy` loop is cut off and `err` is raised, so the fuel hypothesis is not idle -/
example :
    (∀ c ∈ [(0, 1, (3 : Rat)), (1, 2, 3), (2, 3, 3)], c.1 < 4 ∧ c.2.1 < 4) ∧
    (∀ v ∈ [((0 : Rat), (1000000 : Rat), (1 : Rat)), (1, 1, 1), (1, 1, 1), (2, 1, 1)], v.2.2 ≠ 0) ∧
    (∀ c ∈ [(0, 1, (3 : Rat)), (1, 2, 3), (2, 3, 3)], c.2.1 = c.1 + 1) ∧
    (([(0, 1, (3 : Rat)), (1, 2, 3), (2, 3, 3)] : List (Nat × Nat × Rat)).map (·.1)).Nodup ∧
    ([((0 : Rat), (1000000 : Rat), (1 : Rat)), (1, 1, 1), (1, 1, 1), (2, 1, 1)] : List (Rat × Rat × Rat)).length < 5 ∧
    (Vpsc.solve 10 5 (Vpsc.init [(0, 1000000, 1), (1, 1, 1), (1, 1, 1), (2, 1, 1)] [(0, 1, 3), (1, 2, 3), (2, 3, 3)])).1.err = false ∧
    (Vpsc.solve 10 1 (Vpsc.init [(0, 1000000, 1), (1, 1, 1), (1, 1, 1), (2, 1, 1)] [(0, 1, 3), (1, 2, 3), (2, 3, 3)])).1.err = true := by
  decide +kernel


/-! ## the instances `removeOverlap` builds (paths, unit scales): `solve` terminates and is optimal — unconditionally

On a path every step of the first `satisfy` pass merges two neighbouring blocks across a VIOLATED constraint; the merged block settles
between where its two halves stood, so the left half moves left and the right half moves right, which can only raise the multipliers of the
constraints inside either half, and the multiplier of the joining constraint is ≥ 0 (pool-adjacent-violators: a pooling step is never
regretted).  Hence after the first pass every multiplier is ≥ 0: the state is the optimum, the split pass of the second `satisfy` finds nothing to
split, nothing is violated, the cost does not change, and `solve` returns after exactly two passes. -/

/-- after the first `satisfy` pass from the solver's initial state no active constraint carries a negative multiplier -/
theorem path_first_pass_multipliers_nonneg (vars : List (Rat × Rat × Rat)) (cons : List (Nat × Nat × Rat))
    (hidx : ∀ c ∈ cons, c.1 < vars.length ∧ c.2.1 < vars.length) (hw : ∀ v ∈ vars, 0 < v.2.1) (hsc : ∀ v ∈ vars, v.2.2 = 1)
    (hpath : ∀ c ∈ cons, c.2.1 = c.1 + 1) (hnd : (cons.map (·.1)).Nodup) (sfuel : Nat) (hf : vars.length < sfuel) :
    (Vpsc.satisfy sfuel (Vpsc.init vars cons)).err = false ∧
    (Vpsc.lmState (Vpsc.satisfy sfuel (Vpsc.init vars cons))).err = false ∧
    ∀ l ∈ Vpsc.multipliers (Vpsc.satisfy sfuel (Vpsc.init vars cons)), 0 ≤ l := by
  have P := Vpsc.init_satisfy_pstate vars cons hidx hw hsc hpath hnd sfuel hf
  exact ⟨P.err, Vpsc.pstate_multipliers_nonneg P⟩

/-- **termination, unconditionally, for the instances `removeOverlap` builds**: with loop fuels 2 (outer) and more than the number of
variables (inner) `solve` finishes — and by `vpsc_solve_fuel_immaterial` any larger fuels give the very same result -/
theorem path_solve_terminates (vars : List (Rat × Rat × Rat)) (cons : List (Nat × Nat × Rat))
    (hidx : ∀ c ∈ cons, c.1 < vars.length ∧ c.2.1 < vars.length) (hw : ∀ v ∈ vars, 0 < v.2.1) (hsc : ∀ v ∈ vars, v.2.2 = 1)
    (hpath : ∀ c ∈ cons, c.2.1 = c.1 + 1) (hnd : (cons.map (·.1)).Nodup) (fuel sfuel : Nat) (hfuel : 2 ≤ fuel)
    (hf : vars.length < sfuel) :
    (Vpsc.solve fuel sfuel (Vpsc.init vars cons)).1.err = false :=
  (Vpsc.init_solve_pstate vars cons hidx hw hsc hpath hnd fuel sfuel hfuel hf).err

/-- **C05 / C02 for the instances `removeOverlap` builds, unconditionally**: the positions `solve` returns minimise the weighted squared
displacement among ALL placements that satisfy every constraint (no hypothesis about multipliers, none about `err`) -/
theorem path_solve_optimal (vars : List (Rat × Rat × Rat)) (cons : List (Nat × Nat × Rat))
    (hidx : ∀ c ∈ cons, c.1 < vars.length ∧ c.2.1 < vars.length) (hw : ∀ v ∈ vars, 0 < v.2.1) (hsc : ∀ v ∈ vars, v.2.2 = 1)
    (hpath : ∀ c ∈ cons, c.2.1 = c.1 + 1) (hnd : (cons.map (·.1)).Nodup) (fuel sfuel : Nat) (hfuel : 2 ≤ fuel)
    (hf : vars.length < sfuel)
    (z : List Rat) (hz : z.length = vars.length) (hfeas : Feasible (qpInst vars cons) z) :
    cost (qpInst vars cons) (Vpsc.positions (Vpsc.solve fuel sfuel (Vpsc.init vars cons)).1) ≤ cost (qpInst vars cons) z := by
  have P := Vpsc.init_solve_pstate vars cons hidx hw hsc hpath hnd fuel sfuel hfuel hf
  obtain ⟨m1, m2⟩ := Vpsc.pstate_multipliers_nonneg P
  exact vpsc_solve_optimal vars cons hidx (Vpsc.scale_ne_of_unit hsc) hw fuel sfuel P.err m1 m2 z hz hfeas

/-- non-vacuity of the three theorems: a wall-like heavy first variable (weight 10¹⁰, wanted at 0) followed by four labels wanted at 1, 1, 2, 20 with gaps 3
between neighbours.  The hypotheses `hidx`, `hw`, `hsc`, `hpath`, `hnd`, `2 ≤ fuel`, `vars.length < sfuel` hold; the first pass performs three merges
(the first three constraints end active, the last one stays slack); `solve 2 6` ends with `err = false` at the positions shown (the wall gives way by
2 / 1428571429); the multipliers are 40000000000/1428571429, 34285714288/1428571429, 20000000002/1428571429, 0 — none negative; with outer fuel 1 the
loop of `solve` is cut off, so `2 ≤ fuel` is not idle -/
example :
    (∀ c ∈ [(0, 1, (3 : Rat)), (1, 2, 3), (2, 3, 3), (3, 4, 3)], c.1 < 5 ∧ c.2.1 < 5) ∧
    (∀ v ∈ [((0 : Rat), (10000000000 : Rat), (1 : Rat)), (1, 1, 1), (1, 1, 1), (2, 1, 1), (20, 1, 1)], 0 < v.2.1) ∧
    (∀ v ∈ [((0 : Rat), (10000000000 : Rat), (1 : Rat)), (1, 1, 1), (1, 1, 1), (2, 1, 1), (20, 1, 1)], v.2.2 = 1) ∧
    (∀ c ∈ [(0, 1, (3 : Rat)), (1, 2, 3), (2, 3, 3), (3, 4, 3)], c.2.1 = c.1 + 1) ∧
    (([(0, 1, (3 : Rat)), (1, 2, 3), (2, 3, 3), (3, 4, 3)] : List (Nat × Nat × Rat)).map (·.1)).Nodup ∧
    2 ≤ 2 ∧
    ([((0 : Rat), (10000000000 : Rat), (1 : Rat)), (1, 1, 1), (1, 1, 1), (2, 1, 1), (20, 1, 1)] : List (Rat × Rat × Rat)).length < 6 ∧
    (Vpsc.solve 2 6 (Vpsc.init [(0, 10000000000, 1), (1, 1, 1), (1, 1, 1), (2, 1, 1), (20, 1, 1)]
      [(0, 1, 3), (1, 2, 3), (2, 3, 3), (3, 4, 3)])).1.err = false ∧
    Vpsc.positions (Vpsc.solve 2 6 (Vpsc.init [(0, 10000000000, 1), (1, 1, 1), (1, 1, 1), (2, 1, 1), (20, 1, 1)]
      [(0, 1, 3), (1, 2, 3), (2, 3, 3), (3, 4, 3)])).1 =
      [-2 / 1428571429, 4285714285 / 1428571429, 8571428572 / 1428571429, 12857142859 / 1428571429, 20] ∧
    ((List.range 4).map fun c => (Vpsc.getC (Vpsc.solve 2 6 (Vpsc.init [(0, 10000000000, 1), (1, 1, 1), (1, 1, 1), (2, 1, 1), (20, 1, 1)]
      [(0, 1, 3), (1, 2, 3), (2, 3, 3), (3, 4, 3)])).1 c).active) = [true, true, true, false] ∧
    Vpsc.multipliers (Vpsc.satisfy 6 (Vpsc.init [(0, 10000000000, 1), (1, 1, 1), (1, 1, 1), (2, 1, 1), (20, 1, 1)]
      [(0, 1, 3), (1, 2, 3), (2, 3, 3), (3, 4, 3)])) =
      [40000000000 / 1428571429, 34285714288 / 1428571429, 20000000002 / 1428571429, 0] ∧
    Vpsc.multipliers (Vpsc.solve 2 6 (Vpsc.init [(0, 10000000000, 1), (1, 1, 1), (1, 1, 1), (2, 1, 1), (20, 1, 1)]
      [(0, 1, 3), (1, 2, 3), (2, 3, 3), (3, 4, 3)])).1 =
      [40000000000 / 1428571429, 34285714288 / 1428571429, 20000000002 / 1428571429, 0] ∧
    (Vpsc.solve 1 6 (Vpsc.init [(0, 10000000000, 1), (1, 1, 1), (1, 1, 1), (2, 1, 1), (20, 1, 1)]
      [(0, 1, 3), (1, 2, 3), (2, 3, 3), (3, 4, 3)])).1.err = true := by
  decide +kernel


/-! ### … applied to what `removeOverlap` hands the solver -/

/-- the solver instance of one layer: the variables `[left wall,] items…, [right wall]` (unit scales) and one constraint per pair of neighbours -/
def layerVars (o : Layout.ROpts) (its : List Layout.LItem) : List (Rat × Rat × Rat) :=
  (Layout.chainVars o its).map (fun v => (v.t, v.w, 1))

def layerCons (o : Layout.ROpts) (its : List Layout.LItem) : List (Nat × Nat × Rat) :=
  (Layout.chainGaps o its).zipIdx.map (fun p => (p.2, p.2 + 1, p.1))

/-- **the transliterated general solver on a layer of `removeOverlap`, unconditionally**: whatever the layer (any items, any bounds and spacings)
and in whatever ORDER the neighbour constraints are listed (the code lists the label pairs first and the two wall constraints last), `solve`
terminates (outer fuel 2, inner fuel > number of variables) and returns the least-squares optimum among all placements that keep every gap -/
theorem removeOverlap_layer_solved (o : Layout.ROpts) (its : List Layout.LItem) (hne : its ≠ [])
    (cons : List (Nat × Nat × Rat)) (hperm : cons.Perm (layerCons o its)) (fuel sfuel : Nat) (hfuel : 2 ≤ fuel)
    (hf : (layerVars o its).length < sfuel) :
    (Vpsc.solve fuel sfuel (Vpsc.init (layerVars o its) cons)).1.err = false ∧
    ∀ z : List Rat, z.length = (layerVars o its).length → Feasible (qpInst (layerVars o its) cons) z →
      cost (qpInst (layerVars o its) cons) (Vpsc.positions (Vpsc.solve fuel sfuel (Vpsc.init (layerVars o its) cons)).1)
        ≤ cost (qpInst (layerVars o its) cons) z := by
  have hlen := Layout.chain_lengths o hne
  obtain ⟨hmem, hnd⟩ := Vpsc.perm_neighbours_path hperm
  have hidx : ∀ c ∈ cons, c.1 < (layerVars o its).length ∧ c.2.1 < (layerVars o its).length := by
    intro c hc
    obtain ⟨h1, h2⟩ := hmem c hc
    rw [layerVars, List.length_map, h2]
    omega
  have hw : ∀ v ∈ layerVars o its, 0 < v.2.1 := by
    intro v hv
    obtain ⟨x, hx, rfl⟩ := List.mem_map.1 hv
    exact Layout.chainVars_pos o its x hx
  have hsc : ∀ v ∈ layerVars o its, v.2.2 = 1 := by
    intro v hv
    obtain ⟨x, _, rfl⟩ := List.mem_map.1 hv
    rfl
  exact ⟨path_solve_terminates _ _ hidx hw hsc (fun c hc => (hmem c hc).2) hnd fuel sfuel hfuel hf,
    fun z hz hfe => path_solve_optimal _ _ hidx hw hsc (fun c hc => (hmem c hc).2) hnd fuel sfuel hfuel hf z hz hfe⟩

end Labella.C05
