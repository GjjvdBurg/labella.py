import Labella.Model.Render
import Labella.Model.Pipeline
import Labella.Proofs.Rounding
import Labella.Proofs.RenderLemmas
import Mathlib.Algebra.Order.Field.Rat
import Mathlib.Tactic.Ring
import Mathlib.Tactic.Linarith
import Mathlib.Tactic.NormNum
import Labella.Props.C01
import Labella.Proofs.PipelineLemmas
import Labella.Proofs.PipelineEval
/-! # C08 — drawn label boxes are pairwise disjoint and sit on the chosen side of the axis

Along the axis disjointness follows from the C01 separation (label spacing ≥ 3 absorbs 1 unit of position rounding
and < 2 units of origin truncation); across the axis from the layer offsets (layer gap ≥ 1). -/
namespace Labella.C08
open Labella Labella.Render

/-- two labels of one layer whose centres keep the C01 separation with a label spacing of at least 3 are drawn as
disjoint boxes: the slack consumed by rounding positions (1) and truncating two origins (< 2) is < 3.
`sep` is what C01 guarantees: `c_j − c_i ≥ (width_i + width_j)/2 + spacing − 1 − tol`. -/
theorem boxes_disjoint_along_axis (o : ROpt) (a b : RNode) (spacing tol : ℚ)
    (hla : a.layer = b.layer)
    (ha : if o.dir.horizontalAxis then a.width = a.w else a.width = a.h)
    (hb : if o.dir.horizontalAxis then b.width = b.w else b.width = b.h)
    (hsp : 3 ≤ spacing) (htol : 0 ≤ tol)
    (hsep : (a.width + b.width) / 2 + spacing - 1 - tol ≤ b.cur - a.cur) :
    let A := modelBox o a
    let B := modelBox o b
    if o.dir.horizontalAxis then A.ox + A.w - tol < B.ox else A.oy + A.h - tol < B.oy := by
  intro A B
  -- along the axis both origins are truncations of `cur − width / 2`, whatever the direction
  have key := trunc_gap (tol := tol) hsp hsep
  rw [← modelBox_along o a, ← modelBox_along o b] at key
  split at ha
  · next hh =>
    rw [if_pos hh, if_pos hh, ha] at key
    rwa [if_pos hh]
  · next hh =>
    rw [if_neg hh, if_neg hh, ha] at key
    rwa [if_neg hh]

/-- every box lies wholly on the side of the axis named by the direction, more than `layerGap − 1` away from it -/
theorem side_of_axis (o : ROpt) (n : RNode) (hnh : 0 ≤ o.nodeHeight) (hlg : 0 ≤ o.layerGap)
    (hw : 0 ≤ n.w) (hh : 0 ≤ n.h)
    (hth : if o.dir.horizontalAxis then n.h ≤ o.nodeHeight else n.w ≤ o.nodeHeight) :
    onSideB o.dir (o.layerGap - 1) (modelBox o n) = true := by
  rw [onSideB_eq, decide_eq_true_eq]
  linarith [posOf_ge o n hnh hlg, span_near o n (thick_up hth)]

/-- boxes of a farther layer lie wholly beyond the boxes of nearer layers (layer gap ≥ 1, labels no thicker
than `nodeHeight`) -/
theorem layers_nested (o : ROpt) (a b : RNode) (hnh : 0 ≤ o.nodeHeight) (hlg : 1 ≤ o.layerGap)
    (hab : a.layer < b.layer)
    (hta : if o.dir.horizontalAxis then a.h ≤ o.nodeHeight else a.w ≤ o.nodeHeight)
    (hwa : 0 ≤ a.w ∧ 0 ≤ a.h) (hwb : 0 ≤ b.w ∧ 0 ≤ b.h)
    (hub : o.dir = .up → b.h = o.nodeHeight) (hlb : o.dir = .left → True) :
    ((modelBox o a).span o.dir).2 ≤ ((modelBox o b).span o.dir).1 :=
  span_nested o a b hnh hlg hab hta hwa.1 (fun hd => (hub hd).le)

/-- the separation hypothesis of `boxes_disjoint_along_axis` is exactly what C01 proves for neighbours of a layer:
`sepAdjB o (1 + eps)` on the reported positions gives `gap − (1 + eps) ≤ c_j − c_i` with `gap = (w_i + w_j)/2 + spacing` -/
theorem c01_gives_separation (o : Layout.ROpts) (a b : Layout.LItem × ℚ) (rest : List (Layout.LItem × ℚ))
    (h : Layout.sepAdjB o (1 + Layout.eps) (a :: b :: rest) = true) :
    (a.1.width + b.1.width) / 2 + Layout.spacing o a.1 b.1 - 1 - Layout.eps ≤ b.2 - a.2 := by
  rw [sub_sub]
  exact Layout.sepAdjB_head h

/-! ### end to end: `Timeline.compute` + the emitters, composed (`Model/Pipeline.lean`) -/
section EndToEnd
open Labella.Pipeline Labella.Layout

/-- **C08 end to end.**  For EVERY list of data (axis positions and padded drawn sizes ≥ 0), every direction, every engine configuration
with a label spacing of at least the default 3 (any algorithm, bounds, density, stub width ≥ 0, line spacing ≥ 0) and a layer gap ≥ 1:
every datum gets exactly one box; of two boxes of one layer the earlier one ends before the later one begins (up to the solver's
tolerance `eps` ≈ 1e-10 per step between them); every box lies on the side of the axis named by the direction, more than `layerGap − 1`
from it; boxes of a farther layer lie wholly beyond those of nearer layers.  Hence no two boxes intersect. -/
theorem pipeline_boxes (dir : Dir) (layerGap : ℚ) (fo : FOpts) (items : List PItem)
    (hns : 3 ≤ fo.nodeSpacing) (hls : 0 ≤ fo.lineSpacing) (hsw : 0 ≤ fo.stubWidth) (hlg : 1 ≤ layerGap)
    (hsz : ∀ it ∈ items, 0 ≤ it.w ∧ 0 ≤ it.h) :
    ((drawn dir layerGap fo items).map (·.id)).Perm (List.range items.length) ∧
    (∀ a ∈ drawn dir layerGap fo items, ∀ b ∈ drawn dir layerGap fo items, a.layer = b.layer → a.idx < b.idx →
      if dir.horizontalAxis then a.box.ox + a.box.w - Layout.eps * ((b.idx - a.idx : Nat) : ℚ) < b.box.ox
      else a.box.oy + a.box.h - Layout.eps * ((b.idx - a.idx : Nat) : ℚ) < b.box.oy) ∧
    (∀ a ∈ drawn dir layerGap fo items, onSideB dir (layerGap - 1) a.box = true) ∧
    (∀ a ∈ drawn dir layerGap fo items, ∀ b ∈ drawn dir layerGap fo items, a.layer < b.layer →
      (a.box.span dir).2 ≤ (b.box.span dir).1) := by
  have hnh : 0 ≤ (ropt dir layerGap items).nodeHeight := nodeHeight_nonneg dir items
  refine ⟨drawn_ids_perm dir layerGap fo items, ?_, ?_, ?_⟩
  · intro a ha b hb hl hi
    rw [(drawn_node ha).box, (drawn_node hb).box]
    exact boxes_disjoint_along_axis (ropt dir layerGap items) a.node b.node fo.nodeSpacing
      (Layout.eps * ((b.idx - a.idx : Nat) : ℚ)) (by rw [(drawn_node ha).layer, (drawn_node hb).layer, hl])
      (drawn_width ha) (drawn_width hb) hns
      (mul_nonneg C01.eps_nonneg (Nat.cast_nonneg _))
      (drawn_sep (le_trans zero_le_three hns) hls hsw hsz ha hb hl hi)
  · intro a ha
    have hs := drawn_size_nonneg hsz ha
    rw [(drawn_node ha).box]
    exact side_of_axis (ropt dir layerGap items) a.node hnh (le_trans zero_le_one hlg) hs.1 hs.2
      (drawn_thick ha)
  · intro a ha b hb hl
    rw [(drawn_node ha).box, (drawn_node hb).box]
    exact span_nested (ropt dir layerGap items) a.node b.node hnh hlg
      (by rw [(drawn_node ha).layer, (drawn_node hb).layer]; exact hl)
      (drawn_thick ha) (drawn_size_nonneg hsz ha).1
      (thick_up (drawn_thick hb))

/-- … in particular no two boxes intersect by more than the accumulated solver tolerance: shrinking every box by `eps · n` (n = number of
items of its layer, stubs included — about 1e-8 for a hundred items) along the axis makes them pairwise disjoint.  Stated directly: for two
different data, the boxes are separated along the axis (same layer) or across it (different layers). -/
theorem pipeline_boxes_disjoint (dir : Dir) (layerGap : ℚ) (fo : FOpts) (items : List PItem)
    (hns : 3 ≤ fo.nodeSpacing) (hls : 0 ≤ fo.lineSpacing) (hsw : 0 ≤ fo.stubWidth) (hlg : 1 ≤ layerGap)
    (hsz : ∀ it ∈ items, 0 ≤ it.w ∧ 0 ≤ it.h) :
    ∀ a ∈ drawn dir layerGap fo items, ∀ b ∈ drawn dir layerGap fo items, a.id ≠ b.id →
      (a.layer ≠ b.layer ∧ ((a.box.span dir).2 ≤ (b.box.span dir).1 ∨ (b.box.span dir).2 ≤ (a.box.span dir).1)) ∨
      (a.layer = b.layer ∧ a.idx ≠ b.idx ∧
        (if dir.horizontalAxis then
            (a.box.ox + a.box.w - Layout.eps * (((max a.idx b.idx) - (min a.idx b.idx) : Nat) : ℚ) < b.box.ox ∨
             b.box.ox + b.box.w - Layout.eps * (((max a.idx b.idx) - (min a.idx b.idx) : Nat) : ℚ) < a.box.ox)
         else
            (a.box.oy + a.box.h - Layout.eps * (((max a.idx b.idx) - (min a.idx b.idx) : Nat) : ℚ) < b.box.oy ∨
             b.box.oy + b.box.h - Layout.eps * (((max a.idx b.idx) - (min a.idx b.idx) : Nat) : ℚ) < a.box.oy))) := by
  obtain ⟨_, hsame, _, hnest⟩ := pipeline_boxes dir layerGap fo items hns hls hsw hlg hsz
  intro a ha b hb hid
  rcases Nat.lt_trichotomy a.layer b.layer with hl | hl | hl
  · exact Or.inl ⟨Nat.ne_of_lt hl, Or.inl (hnest a ha b hb hl)⟩
  · have hidx : a.idx ≠ b.idx := fun h => hid (drawn_place_inj ha hb hl h)
    refine Or.inr ⟨hl, hidx, ?_⟩
    rcases Nat.lt_or_gt_of_ne hidx with hi | hi
    · rw [Nat.max_eq_right hi.le, Nat.min_eq_left hi.le]
      exact ite_imp Or.inl Or.inl (hsame a ha b hb hl hi)
    · rw [Nat.max_eq_left hi.le, Nat.min_eq_right hi.le]
      exact ite_imp Or.inr Or.inr (hsame b hb a ha hl.symm hi)
  · exact Or.inl ⟨Nat.ne_of_gt hl, Or.inr (hnest b hb a ha hl)⟩

/-! #### non-vacuity: the C06 example (6 data, a tie, both bounds, three layers, label spacing 3), sizes attached, layer gap 10 -/

/-- direction `up`: extents along the axis (`w`) are the widths of `C06.permExL1`, thicknesses (`h`) differ -/
def pipelineExUp : List PItem := [⟨5, 8, 4⟩, ⟨5, 8, 4⟩, ⟨9, 6, 3⟩, ⟨10, 7, 4⟩, ⟨20, 9, 2⟩, ⟨22, 5, 4⟩]
/-- direction `left`: the same data turned (the extent along the axis is now `h`) -/
def pipelineExLeft : List PItem := [⟨5, 4, 8⟩, ⟨5, 4, 8⟩, ⟨9, 3, 6⟩, ⟨10, 4, 7⟩, ⟨20, 2, 9⟩, ⟨22, 4, 5⟩]

/-- (`Box` derives no `DecidableEq`) -/
local instance boxDecEq : DecidableEq Box := fun a b =>
  decidable_of_iff (a.ox = b.ox ∧ a.oy = b.oy ∧ a.w = b.w ∧ a.h = b.h) (by cases a; cases b; simp)

/-- both lists hand the engine the labels of the C06 example, and satisfy the hypotheses of `pipeline_boxes` with its options -/
theorem pipelineEx_hyps :
    (labelsOf .up pipelineExUp).map (fun l => (l.ideal, l.width)) = C06.permExL1.map (fun l => (l.ideal, l.width)) ∧
    (labelsOf .left pipelineExLeft).map (fun l => (l.ideal, l.width)) = C06.permExL1.map (fun l => (l.ideal, l.width)) ∧
    3 ≤ C06.permExOpts.nodeSpacing ∧ 0 ≤ C06.permExOpts.lineSpacing ∧ 0 ≤ C06.permExOpts.stubWidth ∧ (1 : ℚ) ≤ 10 ∧
    (∀ it ∈ pipelineExUp, 0 ≤ it.w ∧ 0 ≤ it.h) ∧ (∀ it ∈ pipelineExLeft, 0 ≤ it.w ∧ 0 ≤ it.h) := by
  decide +kernel

-- direction `up`: what `drawn` yields as (layer, place in the layer, datum, box) — the boxes hang above the axis (negative y), layer by
-- layer 14 = layerGap + nodeHeight apart, origins truncated (label 3: 14 − 7/2 = 10.5 ↦ 10) — and no two of the boxes intersect
example :
    (drawn .up 10 C06.permExOpts pipelineExUp).map (fun d => (d.layer, d.idx, d.id, d.box)) =
      [(0, 3, 3, ⟨10, -14, 7, 4⟩), (0, 5, 5, ⟨23, -14, 5, 4⟩),
       (1, 2, 2, ⟨7, -28, 6, 3⟩), (1, 3, 4, ⟨15, -28, 9, 2⟩),
       (2, 0, 0, ⟨0, -42, 8, 4⟩), (2, 1, 1, ⟨11, -42, 8, 4⟩)] ∧
    pairwiseDisjointB ((drawn .up 10 C06.permExOpts pipelineExUp).map (·.box)) = true := by
  have e : labelsOf .up pipelineExUp = C06.permExL1 := rfl
  simp only [drawn, e, C06.permEx_compute]
  decide +kernel

-- direction `left`: the boxes lie left of the axis (negative x), their far edge — not their origin — on the layer line
example :
    (drawn .left 10 C06.permExOpts pipelineExLeft).map (fun d => (d.layer, d.idx, d.id, d.box)) =
      [(0, 3, 3, ⟨-14, 10, 4, 7⟩), (0, 5, 5, ⟨-14, 23, 4, 5⟩),
       (1, 2, 2, ⟨-27, 7, 3, 6⟩), (1, 3, 4, ⟨-26, 15, 2, 9⟩),
       (2, 0, 0, ⟨-42, 0, 4, 8⟩), (2, 1, 1, ⟨-42, 11, 4, 8⟩)] ∧
    pairwiseDisjointB ((drawn .left 10 C06.permExOpts pipelineExLeft).map (·.box)) = true := by
  have e : labelsOf .left pipelineExLeft = C06.permExL1 := rfl
  simp only [drawn, e, C06.permEx_compute]
  decide +kernel

example := pipeline_boxes_disjoint .up 10 C06.permExOpts pipelineExUp pipelineEx_hyps.2.2.1 pipelineEx_hyps.2.2.2.1
  pipelineEx_hyps.2.2.2.2.1 pipelineEx_hyps.2.2.2.2.2.1 pipelineEx_hyps.2.2.2.2.2.2.1
example := pipeline_boxes_disjoint .left 10 C06.permExOpts pipelineExLeft pipelineEx_hyps.2.2.1 pipelineEx_hyps.2.2.2.1
  pipelineEx_hyps.2.2.2.2.1 pipelineEx_hyps.2.2.2.2.2.1 pipelineEx_hyps.2.2.2.2.2.2.2

end EndToEnd

end Labella.C08
