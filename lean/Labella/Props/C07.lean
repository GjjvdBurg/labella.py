import Labella.Model.Pipeline
import Labella.Model.Render
import Labella.Proofs.Rounding
import Labella.Proofs.RenderLemmas
import Mathlib.Algebra.Order.Field.Rat
import Mathlib.Tactic.Ring
import Mathlib.Tactic.Linarith
import Mathlib.Tactic.NormNum
import Labella.Props.C15
import Labella.Props.C14
import Labella.Proofs.PipelineLemmas
/-! # C07 — every datum is drawn once, at its true time, linked to its own label

`o` = renderer options (direction, node height = thickest label, layer gap); `n` = a label node after layout.
Dots and ticks sit at the affine map of C12/C15 (`dots_affine`, `time_dots_affine` below restate it for the axis
`[0, L]`); the link geometry is proved for all nodes and directions. -/
namespace Labella.C07
open Labella Labella.Render

theorem trunc_close (x : ℚ) : |((truncToZero x : Int) : ℚ) - x| < 1 := by
  exact truncToZero_close x

theorem trunc_le_of_nonneg (x : ℚ) (h : 0 ≤ x) : ((truncToZero x : Int) : ℚ) ≤ x ∧ x - 1 < ((truncToZero x : Int) : ℚ) := by
  exact truncToZero_of_nonneg x h

theorem trunc_ge_of_nonpos (x : ℚ) (h : x ≤ 0) : x ≤ ((truncToZero x : Int) : ℚ) ∧ ((truncToZero x : Int) : ℚ) < x + 1 := by
  exact truncToZero_of_nonpos x h

/-- a node as the timeline builds it: one hop per layer up to its own, the last hop is the node itself, its extent
along the axis is its drawn width (axis along x) or height (axis along y), and for direction `up` every label has
the common thickness `nodeHeight` -/
def WellBuilt (o : ROpt) (n : RNode) : Prop :=
  n.hops.length = n.layer + 1 ∧ n.hops.getLast? = some n.cur ∧
  (if o.dir.horizontalAxis then n.width = n.w else n.width = n.h) ∧
  (o.dir = .up → n.h = o.nodeHeight)

/-- the link starts at the datum's dot on the axis … -/
theorem link_starts_at_dot (o : ROpt) (n : RNode) (hb : WellBuilt o n) :
    (pathSteps o n).head? = some (Step.M (if o.dir.horizontalAxis then (n.ideal, 0) else (0, n.ideal))) := by
  rw [pathSteps_eq]
  rfl

/-- … has one curve per layer it passes (the datum's stubs, then the label) … -/
theorem link_one_curve_per_layer (o : ROpt) (n : RNode) (hb : WellBuilt o n) :
    ((pathSteps o n).filter (fun s => match s with | .C _ _ _ => true | _ => false)).length = n.layer + 1 := by
  rw [pathSteps_eq, List.filter_cons_of_neg (by simp),
    pathLoop_curves (wpNear o) (wpFar o) _ _ (fun _ _ _ => rfl) (fun _ => rfl)]
  rw [List.length_zipIdx]
  exact hb.1

/-- … and ends within 1 unit (coordinate truncation of the box origin) of the middle of the axis-facing edge of the
datum's own box -/
theorem link_ends_at_box (o : ROpt) (n : RNode) (hb : WellBuilt o n) (hnh : 0 ≤ o.nodeHeight) (hlg : 0 ≤ o.layerGap) :
    linkEndsB o.dir 0 1 n.ideal (pathSteps o n) (modelBox o n) = true := by
  obtain ⟨hlen, hlast, hwid, hup⟩ := hb
  obtain ⟨init, hinit⟩ := List.getLast?_eq_some_iff.mp hlast
  have hil : init.length = n.layer := by
    rw [hinit] at hlen
    simpa using hlen
  obtain ⟨pre, c1, c2, hp⟩ := pathSteps_shape o n init hinit
  have h0 : ptCloseB 0 (dotPt o n) (if o.dir.horizontalAxis then (n.ideal, 0) else (0, n.ideal)) = true := by
    unfold dotPt ptCloseB
    simp [ratAbs]
  rw [hp, hil]
  simp only [linkEndsB, List.getLast?_concat, Step.endPt, h0, Bool.true_and]
  exact wpNear_close_facingMid o n hwid hup

/-- the box has the datum's size plus padding, and its extent along the axis is what the layout engine separated -/
theorem box_size (dir : Dir) (pl pr pt pb H W : ℚ) (t : Bool) :
    alongAxis dir (labelSize dir pl pr pt pb H W t) = (if dir.horizontalAxis then W + pl + pr else if t then H + pl + pr else W + pl + pr) := by
  cases dir <;> cases t <;> simp [alongAxis, labelSize, Dir.horizontalAxis]

/-- numeric times: the dot of a datum is the affine image of its time, the axis domain maps onto `[0, L]` -/
theorem dots_affine (d0 d1 L t : ℚ) (h : d0 ≠ d1) :
    Scale.apply false d0 d1 0 L t = L * ((t - d0) / (d1 - d0)) ∧
    Scale.apply false d0 d1 0 L d0 = 0 ∧ Scale.apply false d0 d1 0 L d1 = L := by
  refine ⟨?_, (C12.endpoints false d0 d1 0 L h).1, (C12.endpoints false d0 d1 0 L h).2⟩
  rw [C12.affine d0 d1 0 L t h, zero_add, sub_zero]

/-- date/time values: the same with the instant in milliseconds exactly as supplied (time of day included) -/
theorem time_dots_affine (d0 d1 : Int) (L : ℚ) (h : d0 ≠ d1) (t : Int) :
    Calendar.timeApply d0 d1 0 L t = L * (((t - d0 : Int) : ℚ) / ((d1 - d0 : Int) : ℚ)) := by
  have := C15.time_proportional d0 d1 0 L h d0 t
  rwa [(C15.time_endpoints d0 d1 0 L h).1, sub_zero, sub_zero] at this

/-- a degenerate domain places every dot at the start of the axis -/
theorem degenerate_dots_at_start (d L t : ℚ) : Scale.apply false d d 0 L t = 0 :=
  C12.degenerate false d 0 L t

/-! ### every dot lies on the axis line (axis domain derived from the data: `init_axis` takes the extent of the times and makes it nice) -/

theorem affine_within (n0 n1 L t : ℚ) (hL : 0 ≤ L) (h0 : n0 ≤ t) (h1 : t ≤ n1) (hlt : n0 < n1) :
    0 ≤ Scale.apply false n0 n1 0 L t ∧ Scale.apply false n0 n1 0 L t ≤ L := by
  rw [C12.affine n0 n1 0 L t (ne_of_lt hlt), zero_add, sub_zero]
  have hd : 0 < n1 - n0 := sub_pos.2 hlt
  exact ⟨mul_nonneg hL (div_nonneg (sub_nonneg.2 h0) hd.le),
    mul_le_of_le_one_right hL ((div_le_one hd).2 (sub_le_sub_right h1 n0))⟩

/-- numeric times: whatever the data (all inside `[lo, hi]`, their extent) and the tick count, after `nice` every dot is at a position
between the two ends of the axis line `[0, L]` -/
theorem dots_on_axis_linear (lo hi m L t : ℚ) (hm : 0 < m) (hL : 0 ≤ L) (hlt : lo < hi) (h0 : lo ≤ t) (h1 : t ≤ hi) :
    0 ≤ Scale.apply false (Scale.nice lo hi m).1 (Scale.nice lo hi m).2 0 L t ∧
    Scale.apply false (Scale.nice lo hi m).1 (Scale.nice lo hi m).2 0 L t ≤ L := by
  obtain ⟨w0, w1⟩ := (C14.nice_widens lo hi m hm).1 hlt
  exact affine_within _ _ L t hL (w0.trans h0) (h1.trans w1) (lt_of_le_of_lt w0 (lt_of_lt_of_le hlt w1))

/-- date / time values (instants in ms): the same with the calendar-aware `nice` of the time scale -/
theorem dots_on_axis_time (lo hi : Int) (m L : ℚ) (t : Int) (hL : 0 ≤ L) (hlt : lo < hi) (h0 : lo ≤ t) (h1 : t ≤ hi) :
    0 ≤ Calendar.timeApply (Calendar.nice lo hi m).1 (Calendar.nice lo hi m).2 0 L t ∧
    Calendar.timeApply (Calendar.nice lo hi m).1 (Calendar.nice lo hi m).2 0 L t ≤ L := by
  obtain ⟨w0, w1⟩ := (C14.time_nice_widens lo hi m).1 hlt.le
  have a0 : (((Calendar.nice lo hi m).1 : Int) : ℚ) ≤ (t : ℚ) := by exact_mod_cast (le_trans w0 h0)
  have a1 : (t : ℚ) ≤ (((Calendar.nice lo hi m).2 : Int) : ℚ) := by exact_mod_cast (le_trans h1 w1)
  have a2 : (((Calendar.nice lo hi m).1 : Int) : ℚ) < (((Calendar.nice lo hi m).2 : Int) : ℚ) := by
    exact_mod_cast (lt_of_le_of_lt w0 (lt_of_lt_of_le hlt w1))
  exact affine_within _ _ L _ hL a0 a1 a2

/-! ### end to end: `Timeline.compute` + the emitters, composed (`Model/Pipeline.lean`) -/
section EndToEnd
open Labella.Pipeline Labella.Layout

/-- **C07 (boxes and links) end to end.**  For EVERY list of data, direction, engine configuration and layer gap ≥ 0 (for direction `up`:
labels of one common thickness, which `Timeline.equal_heights` establishes): every datum is drawn exactly once; its box has the datum's
padded size; its link starts at the datum's own dot on the axis, has exactly one curve per layer up to the label's, passes — layer by
layer — through the reported position of the datum's own stub in that layer, and ends within 1 unit (origin truncation) of the middle of
the axis-facing edge of the datum's own box. -/
theorem pipeline_links (dir : Dir) (layerGap : ℚ) (fo : FOpts) (items : List PItem)
    (hlg : 0 ≤ layerGap) (hsz : ∀ it ∈ items, 0 ≤ it.w ∧ 0 ≤ it.h)
    (hup : dir = .up → ∀ it ∈ items, it.h = nodeHeight dir items) :
    ((drawn dir layerGap fo items).map (·.id)).Perm (List.range items.length) ∧
    ∀ a ∈ drawn dir layerGap fo items,
      a.id < items.length ∧
      a.box.w = (items.getD a.id default).w ∧ a.box.h = (items.getD a.id default).h ∧
      (pathSteps (ropt dir layerGap items) a.node).head? =
        some (Step.M (if dir.horizontalAxis then ((items.getD a.id default).ideal, 0) else (0, (items.getD a.id default).ideal))) ∧
      ((pathSteps (ropt dir layerGap items) a.node).filter (fun s => match s with | .C _ _ _ => true | _ => false)).length = a.layer + 1 ∧
      (∀ j, j < a.layer → ∃ p ∈ (Layout.compute fo (labelsOf dir items)).getD j [],
          p.ref.id = a.id ∧ p.ref.isStub = true ∧ a.node.hops.getD j 0 = (p.pos : ℚ)) ∧
      a.node.hops.getD a.layer 0 = a.node.cur ∧ a.node.hops.length = a.layer + 1 ∧
      linkEndsB dir 0 1 (items.getD a.id default).ideal (pathSteps (ropt dir layerGap items) a.node) a.box = true := by
  refine ⟨drawn_ids_perm dir layerGap fo items, fun a ha => ?_⟩
  have d := drawn_node ha
  obtain ⟨hlen, hcur, hlast, hstubs⟩ := drawn_links ha
  have hmem : items.getD a.id default ∈ items := getD_mem d.id_lt
  have hwb : WellBuilt (ropt dir layerGap items) a.node := by
    refine ⟨by rw [hlen, d.layer], hlast, drawn_width ha, ?_⟩
    · intro hd
      change a.node.h = nodeHeight dir items
      rw [d.h]
      exact hup hd _ hmem
  have hnh : 0 ≤ (ropt dir layerGap items).nodeHeight := nodeHeight_nonneg dir items
  have h1 := link_starts_at_dot (ropt dir layerGap items) a.node hwb
  have h2 := link_one_curve_per_layer (ropt dir layerGap items) a.node hwb
  have h3 := link_ends_at_box (ropt dir layerGap items) a.node hwb hnh hlg
  rw [d.ideal] at h1 h3
  rw [d.layer] at h2
  rw [← d.box] at h3
  refine ⟨d.id_lt, ?_, ?_, h1, h2, hstubs, hcur, hlen, h3⟩
  · rw [d.box, ← d.w]; rfl
  · rw [d.box, ← d.h]; rfl

end EndToEnd

/-! ### the whole chain for numeric times: data → nice domain → scale → nodes → layout → drawn boxes, links and dots -/
section WholeChain
open Labella.Pipeline Labella.Layout

/-- a datum as the caller supplies it: time, explicit label width, label height, whether it has a text -/
structure Datum where
  t : ℚ
  W : ℚ
  H : ℚ
  hasText : Bool

/-- `Timeline.init_axis` + `get_nodes` for numeric times: the axis domain is the nice extent `[lo, hi]` of the data, mapped onto `[0, L]`;
every datum becomes a node at the image of its time with the padded (and for left / right turned) label size -/
def nodesOf (dir : Dir) (pl pr pt pb : ℚ) (lo hi m L : ℚ) (data : List Datum) : List PItem :=
  data.map (fun d =>
    { ideal := Scale.apply false (Scale.nice lo hi m).1 (Scale.nice lo hi m).2 0 L d.t,
      w := (labelSize dir pl pr pt pb d.H d.W d.hasText).1, h := (labelSize dir pl pr pt pb d.H d.W d.hasText).2 })

/-- **C07, the whole chain** (numeric times, axis domain derived from the data): for every list of data inside its extent `[lo, hi]`, every
tick count, axis length, direction, padding, engine configuration and layer gap ≥ 0 (direction `up`: labels of one common thickness) —
every datum is drawn exactly once; its dot lies ON the axis line at the affine image of its time; its link starts at that dot, has one
curve per layer, passes layer by layer through its own stub and ends within 1 unit of the middle of the axis-facing edge of its own box; the
box has the datum's size plus padding. -/
theorem timeline_chain (dir : Dir) (pl pr pt pb lo hi m L layerGap : ℚ) (fo : FOpts) (data : List Datum)
    (hm : 0 < m) (hL : 0 ≤ L) (hlt : lo < hi) (hin : ∀ d ∈ data, lo ≤ d.t ∧ d.t ≤ hi) (hlg : 0 ≤ layerGap)
    (hsz : ∀ it ∈ nodesOf dir pl pr pt pb lo hi m L data, 0 ≤ it.w ∧ 0 ≤ it.h)
    (hup : dir = .up → ∀ it ∈ nodesOf dir pl pr pt pb lo hi m L data, it.h = nodeHeight dir (nodesOf dir pl pr pt pb lo hi m L data)) :
    let items := nodesOf dir pl pr pt pb lo hi m L data
    ((drawn dir layerGap fo items).map (·.id)).Perm (List.range data.length) ∧
    ∀ a ∈ drawn dir layerGap fo items, ∃ d, data[a.id]? = some d ∧
      -- the dot: on the axis line, at the affine image of the datum's own time
      (items.getD a.id default).ideal = L * ((d.t - (Scale.nice lo hi m).1) / ((Scale.nice lo hi m).2 - (Scale.nice lo hi m).1)) ∧
      0 ≤ (items.getD a.id default).ideal ∧ (items.getD a.id default).ideal ≤ L ∧
      -- the box: the datum's size plus padding
      (a.box.w, a.box.h) = labelSize dir pl pr pt pb d.H d.W d.hasText ∧
      -- the link
      (pathSteps (ropt dir layerGap items) a.node).head? =
        some (Step.M (if dir.horizontalAxis then ((items.getD a.id default).ideal, 0) else (0, (items.getD a.id default).ideal))) ∧
      ((pathSteps (ropt dir layerGap items) a.node).filter (fun s => match s with | .C _ _ _ => true | _ => false)).length = a.layer + 1 ∧
      (∀ j, j < a.layer → ∃ p ∈ (Layout.compute fo (labelsOf dir items)).getD j [],
          p.ref.id = a.id ∧ p.ref.isStub = true ∧ a.node.hops.getD j 0 = (p.pos : ℚ)) ∧
      linkEndsB dir 0 1 (items.getD a.id default).ideal (pathSteps (ropt dir layerGap items) a.node) a.box = true := by
  intro items
  have hlen : items.length = data.length := by simp [items, nodesOf]
  obtain ⟨hperm, hall⟩ := pipeline_links dir layerGap fo items hlg hsz hup
  refine ⟨hlen ▸ hperm, ?_⟩
  intro a ha
  obtain ⟨hid, hw, hh, hhead, hcur, hstub, _, _, hend⟩ := hall a ha
  have hid' : a.id < data.length := hlen ▸ hid
  refine ⟨data[a.id], by simp [hid'], ?_⟩
  have hitem : items.getD a.id default =
      { ideal := Scale.apply false (Scale.nice lo hi m).1 (Scale.nice lo hi m).2 0 L data[a.id].t,
        w := (labelSize dir pl pr pt pb data[a.id].H data[a.id].W data[a.id].hasText).1,
        h := (labelSize dir pl pr pt pb data[a.id].H data[a.id].W data[a.id].hasText).2 } := by
    simp [items, nodesOf, List.getD_eq_getElem?_getD, hid']
  obtain ⟨w0, w1⟩ := (C14.nice_widens lo hi m hm).1 hlt
  have hne : (Scale.nice lo hi m).1 ≠ (Scale.nice lo hi m).2 := ne_of_lt (lt_of_le_of_lt w0 (lt_of_lt_of_le hlt w1))
  obtain ⟨hd0, hd1⟩ := hin data[a.id] (List.getElem_mem _)
  obtain ⟨b0, b1⟩ := dots_on_axis_linear lo hi m L data[a.id].t hm hL hlt hd0 hd1
  have hid : (items.getD a.id default).ideal
      = Scale.apply false (Scale.nice lo hi m).1 (Scale.nice lo hi m).2 0 L data[a.id].t := by rw [hitem]
  exact ⟨hid.trans (dots_affine _ _ L _ hne).1, b0.trans_eq hid.symm, hid.trans_le b1, by rw [hw, hh, hitem],
    hhead, hcur, hstub, hend⟩

end WholeChain

end Labella.C07
