import Labella.Proofs.EngineTMulti
import Labella.Proofs.EngineTMultiEval
/-! # C06 — a layout is a pure function of the labels and options

For every label list (ties, identical positions, labels wider than a layer, 1–2 labels) and every option set. -/
namespace Labella.C06
open Labella Labella.Layout

/-! ### the pure engine; one layer presented in a different input order -/

/-- The engine reports exactly the layering it computed, and its result after ANY history of
set-options / set-labels / compute calls is the pure function `compute` of the accumulated options and the current
labels: re-computing changes nothing and a reused engine behaves like a fresh one. -/
theorem engine_is_pure (e : Engine) (ops : List EOp) :
    ((e.run ops).step .compute).layers = some (compute (e.run ops).opts (e.run ops).labels) := by
  simp [Engine.step]

theorem compute_idempotent (e : Engine) :
    ((e.step .compute).step .compute).layers = (e.step .compute).layers := by
  simp [Engine.step]

/-- two stable sorts of permutations of a list whose key-equal elements are equal are the same list -/
theorem sort_canonical (l1 l2 : List LItem) (hp : l1.Perm l2)
    (hint : ∀ a ∈ l1, ∀ b ∈ l1, a.target = b.target → a = b) :
    (sortItems l1.zipIdx).map (·.1) = (sortItems l2.zipIdx).map (·.1) := by
  exact sortItems_canonical l1 l2 hp hint

/-- hence presenting the items of a layer in a different input order (interchangeable ties) gives the same
positions, item for item -/
theorem removeOverlap_perm (o : ROpts) (l1 l2 : List LItem) (hp : l1.Perm l2)
    (hint : ∀ a ∈ l1, ∀ b ∈ l1, a.target = b.target → a = b) :
    (removeOverlap o l1).xs = (removeOverlap o l2).xs ∧ (removeOverlap o l1).pos = (removeOverlap o l2).pos := by
  unfold removeOverlap
  simp only [sortItems_canonical l1 l2 hp hint, and_self]

/-- the same for the label order seen by the layering step -/
theorem sortIds_canonical (l1 l2 : List Label) (hp : l1.Perm l2)
    (hint : ∀ a ∈ l1, ∀ b ∈ l1, a.ideal = b.ideal → a = b) :
    (sortIds l1).map (fun i => l1.getD i ⟨0, 0⟩) = (sortIds l2).map (fun i => l2.getD i ⟨0, 0⟩) := by
  rw [sortIds_getD, sortIds_getD]
  exact sortedLabels_canonical l1 l2 hp hint

/-! ### permutation invariance of the whole multi-layer pipeline -/

/-- what an observer sees of a placed item: the data position and width of the label it belongs to, whether it
is a stub, of which level (0 for a label), and its position -/
def valueOf (labels : List Label) (p : Placed) : Rat × Rat × Bool × Nat × Int :=
  (idealOf labels p.ref.id, widthOf labels p.ref.id, p.ref.isStub,
    (match p.ref with | .stub _ l => l | .label _ => 0), p.pos)

theorem valueOf_eq_obs (labels : List Label) (p : Placed) : valueOf labels p = Placed.obs labels p := by
  rcases p with ⟨r, pos⟩
  cases r <;> rfl

/-- presenting the same labels in a different input order yields, layer by layer and item by item, the same
layout — provided labels that share a data position also share a width (such labels are interchangeable) -/
theorem compute_perm (o : FOpts) (l1 l2 : List Label) (hp : l1.Perm l2)
    (hint : ∀ a ∈ l1, ∀ b ∈ l1, a.ideal = b.ideal → a = b) :
    (compute o l1).map (fun layer => layer.map (valueOf l1))
      = (compute o l2).map (fun layer => layer.map (valueOf l2)) := by
  have e : ∀ l : List Label, valueOf l = Placed.obs l := fun l => funext (valueOf_eq_obs l)
  rw [e l1, e l2]
  exact compute_perm_obs o l1 l2 hp hint

/-- the relabelled form for the layering algorithms (`simple`, `overlap`): the layout of a permuted input IS the
layout of the original with the label indices renamed by a bijection `π` carrying each label to an equal one -/
theorem compute_relabel (o : FOpts) (l1 l2 : List Label) (hp : l1.Perm l2)
    (hint : ∀ a ∈ l1, ∀ b ∈ l1, a.ideal = b.ideal → a = b) (halg : o.algorithm ≠ .none) :
    ∃ π : Nat → Nat, Function.Injective π ∧ (∀ i, l2[π i]? = l1[i]?) ∧
      compute o l2 = (compute o l1).map (List.map (Placed.rename π)) := by
  obtain ⟨π, R, hs⟩ := exists_relabel l1 l2 hp hint
  exact ⟨π, R.inj, R.get, compute_rel R o hs hp.length_eq halg⟩

-- non-vacuity: 6 labels (with a tie), 3 layers, both walls; the input and a permutation of it
def permExOpts : FOpts :=
  { nodeSpacing := 3, lineSpacing := 2, minPos := some 0, maxPos := some 30,
    algorithm := .overlap, density := 3/4, stubWidth := 1 }
def permExL1 : List Label := [⟨5, 8⟩, ⟨5, 8⟩, ⟨9, 6⟩, ⟨10, 7⟩, ⟨20, 9⟩, ⟨22, 5⟩]
def permExL2 : List Label := [⟨22, 5⟩, ⟨5, 8⟩, ⟨10, 7⟩, ⟨20, 9⟩, ⟨5, 8⟩, ⟨9, 6⟩]

/-- equality of what an observer sees of a placed item (`Placed.obs`), given by name so that the instances for the lists of lists of
them compared below are found from it -/
local instance valueDecEq : DecidableEq (Rat × Rat × Bool × Nat × Int) := inferInstance

section
local instance placedDecEq : DecidableEq Placed := fun a b =>
  decidable_of_iff (a.ref = b.ref ∧ a.pos = b.pos) (by cases a; cases b; simp)

/-- the layout of the example, evaluated once for the examples here and in C01 that speak of it -/
theorem permEx_compute : compute permExOpts permExL1 =
    [[⟨.stub 0 0, 0⟩, ⟨.stub 1 0, 4⟩, ⟨.stub 2 0, 6⟩, ⟨.label 3, 14⟩, ⟨.stub 4 0, 20⟩, ⟨.label 5, 26⟩],
     [⟨.stub 0 1, 0⟩, ⟨.stub 1 1, 3⟩, ⟨.label 2, 10⟩, ⟨.label 4, 20⟩],
     [⟨.label 0, 4⟩, ⟨.label 1, 15⟩]] := by
  -- `List.mergeSort` does not reduce in the kernel: evaluate the equal pipeline `compute'` (stable insertion sort)
  rw [← compute'_eq]
  decide +kernel
end

example :
    (compute permExOpts permExL1).map (fun layer => layer.map (valueOf permExL1)) =
      [[(5, 8, true, 0, 0), (5, 8, true, 0, 4), (9, 6, true, 0, 6), (10, 7, false, 0, 14),
        (20, 9, true, 0, 20), (22, 5, false, 0, 26)],
       [(5, 8, true, 1, 0), (5, 8, true, 1, 3), (9, 6, false, 0, 10), (20, 9, false, 0, 20)],
       [(5, 8, false, 0, 4), (5, 8, false, 0, 15)]] ∧
    (compute permExOpts permExL2).map (fun layer => layer.map (valueOf permExL2)) =
      (compute permExOpts permExL1).map (fun layer => layer.map (valueOf permExL1)) ∧
    -- the index-level results differ: the two presentations number the labels differently
    (compute permExOpts permExL1).map (fun layer => layer.map (·.ref)) ≠
      (compute permExOpts permExL2).map (fun layer => layer.map (·.ref)) := by
  rw [permEx_compute, ← compute'_eq]
  decide +kernel

local instance labelDecEq : DecidableEq Label := fun a b =>
  decidable_of_iff (a.ideal = b.ideal ∧ a.width = b.width) (by cases a; cases b; simp)

-- the hypotheses of `compute_perm` hold on this instance (the two labels at 5 are interchangeable) …
theorem permEx_hyps : permExL1.Perm permExL2 ∧ ∀ a ∈ permExL1, ∀ b ∈ permExL1, a.ideal = b.ideal → a = b := by decide +kernel

-- … so the theorem applies to it
example : (compute permExOpts permExL1).map (fun layer => layer.map (valueOf permExL1))
    = (compute permExOpts permExL2).map (fun layer => layer.map (valueOf permExL2)) :=
  compute_perm permExOpts permExL1 permExL2 permEx_hyps.1 permEx_hyps.2

-- the tie hypothesis cannot be dropped: two labels at the same data position with different widths keep their
-- input order (the sorts are stable), and an observer sees the difference
example :
    (compute permExOpts [⟨5, 8⟩, ⟨5, 2⟩]).map (fun layer => layer.map (valueOf [⟨5, 8⟩, ⟨5, 2⟩]))
      = [[(5, 8, false, 0, 4), (5, 2, false, 0, 12)]] ∧
    (compute permExOpts [⟨5, 2⟩, ⟨5, 8⟩]).map (fun layer => layer.map (valueOf [⟨5, 2⟩, ⟨5, 8⟩]))
      = [[(5, 2, false, 0, 1), (5, 8, false, 0, 9)]] := by
  rw [← compute'_eq, ← compute'_eq]
  decide +kernel

/-! ### the stateful engine: stale positions, layers and stubs in the node objects do not matter

`Model/EngineT.lean` transliterates the stateful steps of `Force.compute` (shared mutable `Node` objects with `currentPos`,
`layerIndex`, `parent` / `child` links; `removeStub`, `createStub`, in-place sorts) over a node store. -/

/-- what must hold of the store for an engine's node list (it does in every reachable state): the nodes exist, are pairwise distinct and are labels (no `child`).  NOTHING is assumed about their `cur`, `layerIndex`, `parent` fields, nor about the rest of the store (stale stubs of earlier layouts). -/
structure Good (s : EngineT.Store) (nodes : List Nat) : Prop where
  lt : ∀ i ∈ nodes, i < s.size
  nodup : nodes.Nodup
  label : ∀ i ∈ nodes, (EngineT.get s i).child = none

theorem Good.toN {s : EngineT.Store} {nodes : List Nat} (h : Good s nodes) : EngineT.GoodN s nodes :=
  ⟨h.lt, h.nodup, h.label⟩

theorem Good.ofN {s : EngineT.Store} {nodes : List Nat} (h : EngineT.GoodN s nodes) : Good s nodes :=
  ⟨h.lt, h.nodup, h.label⟩

/-- stale state does not matter: for EVERY store in which the engine's nodes are labels — whatever positions, layer numbers and parent links they carry, whatever else the store holds — what `compute` leaves behind (the layers `getLayers()` reports; for every item its data position, width, stub flag, reported layer index, position, payload)
is the pure layout `Layout.compute` of the engine's options and the (data position, width) of its nodes -/
theorem computeT_pure (e : EngineT.Engine) (s : EngineT.Store) (hg : Good s e.nodes) :
    EngineT.observe (EngineT.computeT e s).2 ((EngineT.computeT e s).1.layers.getD []) =
      EngineT.observePure e.opts (EngineT.labelsOf s e.nodes) (e.nodes.map (fun i => (EngineT.get s i).data))
        (Layout.compute e.opts (EngineT.labelsOf s e.nodes)) :=
  EngineT.computeT_observe e s hg.toN

/-- and the state it leaves is good again, with the same nodes (reordered by a stable sort on the data position only for algorithm `none`) and unchanged data -/
theorem computeT_good (e : EngineT.Engine) (s : EngineT.Store) (hg : Good s e.nodes) :
    Good (EngineT.computeT e s).2 (EngineT.computeT e s).1.nodes ∧
    (EngineT.computeT e s).1.nodes.Perm e.nodes ∧
    (e.opts.algorithm ≠ .none → (EngineT.computeT e s).1.nodes = e.nodes) ∧
    (∀ i ∈ e.nodes, (EngineT.get (EngineT.computeT e s).2 i).ideal = (EngineT.get s i).ideal ∧ (EngineT.get (EngineT.computeT e s).2 i).width = (EngineT.get s i).width ∧ (EngineT.get (EngineT.computeT e s).2 i).data = (EngineT.get s i).data) := by
  have hf := EngineT.computeT_frame e s
  have hn := EngineT.computeT_nodes e s
  refine ⟨Good.ofN (EngineT.computeT_goodN e s hg.toN), hn.1, hn.2, ?_⟩
  intro i hi
  exact ⟨hf.ideal i (hg.lt i hi), hf.width i (hg.lt i hi), hf.data i (hg.lt i hi)⟩

/-- every world reachable by ANY history of operations (new engines, re-configuration, fresh nodes, the same node objects registered again, computes) is good -/
theorem world_good (ops : List EngineT.Op) : Good (EngineT.World.run ops).store (EngineT.World.run ops).engine.nodes :=
  Good.ofN (EngineT.world_inv ops).nodes

/-- hence: the compute that follows ANY history yields the pure layout of the current options and the data of the current nodes -/
theorem compute_after_any_history (ops : List EngineT.Op) :
    EngineT.observe (EngineT.computeT (EngineT.World.run ops).engine (EngineT.World.run ops).store).2
        ((EngineT.computeT (EngineT.World.run ops).engine (EngineT.World.run ops).store).1.layers.getD []) =
      EngineT.observePure (EngineT.World.run ops).engine.opts
        (EngineT.labelsOf (EngineT.World.run ops).store (EngineT.World.run ops).engine.nodes)
        ((EngineT.World.run ops).engine.nodes.map (fun i => (EngineT.get (EngineT.World.run ops).store i).data))
        (Layout.compute (EngineT.World.run ops).engine.opts
          (EngineT.labelsOf (EngineT.World.run ops).store (EngineT.World.run ops).engine.nodes)) :=
  computeT_pure _ _ (world_good ops)

-- non-vacuity: a history with two computes; the second runs under different options on node objects that carry the stubs,
-- layer numbers and positions of the first (6 labels with a tie; first layout: `overlap`, 3 layers; second: `simple`, 2 layers)
def staleO1 : FOpts :=
  { nodeSpacing := 3, lineSpacing := 2, minPos := some 0, maxPos := some 30, algorithm := .overlap, density := 3/4, stubWidth := 1 }
def staleO2 : FOpts :=
  { nodeSpacing := 2, lineSpacing := 1, minPos := some 0, maxPos := some 40, algorithm := .simple, density := 3/4, stubWidth := 2 }
def staleLabels : List Label := [⟨5, 8⟩, ⟨5, 8⟩, ⟨9, 6⟩, ⟨10, 7⟩, ⟨20, 9⟩, ⟨22, 5⟩]
def staleOps : List EngineT.Op := [.newEngine staleO1, .freshNodes staleLabels, .compute, .setOptions staleO2]

example :
    -- before the second compute the engine's six nodes carry (parent stub, layer number, position) of the first layout …
    (EngineT.World.run staleOps).engine.nodes.map (fun i =>
        ((EngineT.get (EngineT.World.run staleOps).store i).parent,
          (EngineT.get (EngineT.World.run staleOps).store i).layerIndex,
          (EngineT.get (EngineT.World.run staleOps).store i).cur)) =
      [(some 6, 2, 4), (some 8, 2, 15), (some 10, 1, 10), (none, 0, 14), (some 11, 1, 20), (none, 0, 26)] ∧
    -- … what the second compute reports is what a fresh engine with fresh nodes reports under the second options …
    ((EngineT.World.run (staleOps ++ [.compute])).outs.getLast? ==
      (EngineT.World.run [.newEngine staleO2, .freshNodes staleLabels, .compute]).outs.getLast?) = true ∧
    -- … with new stubs (ids 12–14) next to the six stale ones (ids 6–11) in the store
    (EngineT.World.run (staleOps ++ [.compute])).engine.layers = some [[0, 12, 2, 13, 4, 14], [1, 3, 5]] := by
  -- `List.mergeSort` does not reduce in the kernel: evaluate the equal `World.run'` (stable insertion sort)
  rw [← EngineT.World.run'_eq]
  decide +kernel

-- the theorem applies to that state (no evaluation needed: every reachable world is good)
example :
    EngineT.observe (EngineT.computeT (EngineT.World.run staleOps).engine (EngineT.World.run staleOps).store).2
        ((EngineT.computeT (EngineT.World.run staleOps).engine (EngineT.World.run staleOps).store).1.layers.getD []) =
      EngineT.observePure (EngineT.World.run staleOps).engine.opts
        (EngineT.labelsOf (EngineT.World.run staleOps).store (EngineT.World.run staleOps).engine.nodes)
        ((EngineT.World.run staleOps).engine.nodes.map (fun i => (EngineT.get (EngineT.World.run staleOps).store i).data))
        (Layout.compute (EngineT.World.run staleOps).engine.opts
          (EngineT.labelsOf (EngineT.World.run staleOps).store (EngineT.World.run staleOps).engine.nodes)) :=
  computeT_pure _ _ (world_good staleOps)

/-! ### several engines alive at once (interleaved operations, shared list objects and node objects) -/

/-- every engine of every world reachable by ANY interleaving of operations on ANY number of engines (creation, switching between
them, re-configuration, fresh node lists, list objects registered with a second engine or registered again — in whatever order an
in-place sort by another engine left them and whatever positions, layer numbers and stub links another engine's layout left in the
node objects —, computes) is in a good state -/
theorem mworld_good (ops : List EngineT.MOp) (k : Nat) :
    Good (EngineT.MWorld.run ops).store ((EngineT.MWorld.run ops).engineAt k).nodes :=
  Good.ofN ((EngineT.mworld_inv ops).engine_good k)

/-- hence: a compute of ANY engine after ANY interleaving yields the pure layout of that engine's options and the data of its nodes -/
theorem compute_after_any_interleaving (ops : List EngineT.MOp) (k : Nat) :
    EngineT.observe (EngineT.computeT ((EngineT.MWorld.run ops).engineAt k) (EngineT.MWorld.run ops).store).2
        ((EngineT.computeT ((EngineT.MWorld.run ops).engineAt k) (EngineT.MWorld.run ops).store).1.layers.getD []) =
      EngineT.observePure ((EngineT.MWorld.run ops).engineAt k).opts
        (EngineT.labelsOf (EngineT.MWorld.run ops).store ((EngineT.MWorld.run ops).engineAt k).nodes)
        (((EngineT.MWorld.run ops).engineAt k).nodes.map (fun i => (EngineT.get (EngineT.MWorld.run ops).store i).data))
        (Layout.compute ((EngineT.MWorld.run ops).engineAt k).opts
          (EngineT.labelsOf (EngineT.MWorld.run ops).store ((EngineT.MWorld.run ops).engineAt k).nodes)) :=
  computeT_pure _ _ (mworld_good ops k)

-- non-vacuity: two engines alive at once.  Engine 0 (`overlap`, bounds 0…30) lays out list 0; engine 1 (algorithm `none`) is given
-- the SAME list object, lays it out (which sorts the list object in place and overwrites positions, layer numbers and links of the
-- shared node objects); then engine 0 computes again.
def interOps : List EngineT.MOp :=
  [.newEngine staleO1, .freshNodes permExL2, .compute,
   .newEngine { staleO2 with algorithm := .none }, .useList 0, .compute, .switch 0]

example :
    -- (1) the list object engine 0 holds is no longer in creation order: engine 1's layout (algorithm `none`) sorted it in place …
    (EngineT.MWorld.run interOps).lists = [[1, 4, 5, 2, 3, 0]] ∧
    (EngineT.MWorld.run interOps).created = [[0, 1, 2, 3, 4, 5]] ∧
    (EngineT.MWorld.run interOps).lists.head? ≠ (EngineT.MWorld.run interOps).created.head? ∧
    (EngineT.MWorld.run interOps).cur = 0 ∧
    -- (2) … and before engine 0's second compute its six nodes (in the order its `_nodes` now has) carry (parent, layer number, position) of
    -- engine 1's single-layer layout (bounds 0 … 40, spacing 2), not of engine 0's own first layout (three layers, stubs 6–11) …
    ((EngineT.MWorld.run interOps).engineAt 0).nodes.map (fun i =>
        ((EngineT.get (EngineT.MWorld.run interOps).store i).parent,
          (EngineT.get (EngineT.MWorld.run interOps).store i).layerIndex,
          (EngineT.get (EngineT.MWorld.run interOps).store i).cur)) =
      [(none, 0, -3), (none, 0, 7), (none, 0, 16), (none, 0, 25), (none, 0, 35), (none, 0, 44)] ∧
    -- … which were, after engine 0's first compute, for the nodes in creation order:
    ((EngineT.MWorld.run (interOps.take 3)).engineAt 0).nodes.map (fun i =>
        ((EngineT.get (EngineT.MWorld.run (interOps.take 3)).store i).parent,
          (EngineT.get (EngineT.MWorld.run (interOps.take 3)).store i).layerIndex,
          (EngineT.get (EngineT.MWorld.run (interOps.take 3)).store i).cur)) =
      [(none, 0, 26), (some 6, 2, 4), (none, 0, 14), (some 11, 1, 20), (some 8, 2, 15), (some 10, 1, 10)] ∧
    -- (3) what engine 0's next compute records (payloads reported as positions in the list as created) is what a fresh single engine with
    -- fresh nodes records under `staleO1` on `permExL2` …
    (EngineT.MWorld.run (interOps ++ [.compute])).outs.map (·.1) = [0, 1, 0] ∧
    ((EngineT.MWorld.run (interOps ++ [.compute])).outs.getLast?.map (·.2) ==
      (EngineT.World.run [.newEngine staleO1, .freshNodes permExL2, .compute]).outs.getLast?) = true ∧
    -- … with new stubs (ids 12–17) next to the six stale ones (ids 6–11) in the store
    ((EngineT.MWorld.run (interOps ++ [.compute])).engineAt 0).layers =
      some [[13, 15, 16, 2, 17, 0], [12, 14, 5, 3], [1, 4]] := by
  -- `List.mergeSort` does not reduce in the kernel: evaluate the equal `MWorld.run'` / `World.run'` (stable insertion sort)
  rw [← EngineT.MWorld.run'_eq, ← EngineT.World.run'_eq]
  decide +kernel

-- non-vacuity of `setWidths`: between two computes of one engine the CALLER assigns `node.width = 0` to the first two node objects
-- of list 0; the widths in the store change (nothing else of the history does) and the second compute is recorded as well.
def rewidthOps : List EngineT.MOp :=
  [.newEngine staleO1, .freshNodes permExL2, .compute, .setWidths 0 [0, 0], .compute]

example :
    ((EngineT.MWorld.run (rewidthOps.take 3)).created[0]?.getD []).map
        (fun i => (EngineT.get (EngineT.MWorld.run (rewidthOps.take 3)).store i).width) = permExL2.map (·.width) ∧
    ((EngineT.MWorld.run rewidthOps).created[0]?.getD []).map
        (fun i => (EngineT.get (EngineT.MWorld.run rewidthOps).store i).width) = [0, 0] ++ (permExL2.map (·.width)).drop 2 ∧
    (EngineT.get (EngineT.MWorld.run rewidthOps).store 0).width = 0 ∧
    (EngineT.get (EngineT.MWorld.run rewidthOps).store 1).width = 0 ∧
    (EngineT.MWorld.run rewidthOps).outs.length = 2 ∧
    (EngineT.MWorld.run rewidthOps).outs.map (·.1) = [0, 0] := by
  rw [← EngineT.MWorld.run'_eq]
  decide +kernel

-- the theorem applies to that state (no evaluation needed: every engine of every reachable world is in a good state)
example :
    EngineT.observe (EngineT.computeT ((EngineT.MWorld.run interOps).engineAt 0) (EngineT.MWorld.run interOps).store).2
        ((EngineT.computeT ((EngineT.MWorld.run interOps).engineAt 0) (EngineT.MWorld.run interOps).store).1.layers.getD []) =
      EngineT.observePure ((EngineT.MWorld.run interOps).engineAt 0).opts
        (EngineT.labelsOf (EngineT.MWorld.run interOps).store ((EngineT.MWorld.run interOps).engineAt 0).nodes)
        (((EngineT.MWorld.run interOps).engineAt 0).nodes.map (fun i => (EngineT.get (EngineT.MWorld.run interOps).store i).data))
        (Layout.compute ((EngineT.MWorld.run interOps).engineAt 0).opts
          (EngineT.labelsOf (EngineT.MWorld.run interOps).store ((EngineT.MWorld.run interOps).engineAt 0).nodes)) :=
  compute_after_any_interleaving interOps 0

end Labella.C06
