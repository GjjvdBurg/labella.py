import Labella.Proofs.CalendarLemmas
import Labella.Proofs.TimeTickLemmas
import Labella.Proofs.TickCountLemmas
import Labella.Proofs.TimeNiceLemmas
import Labella.Model.CalSpec
/-! # C16 — time ticks increase, stay in the domain, sit on calendar boundaries
# C14 (time part) — time nice() only widens, onto calendar boundaries
# C15 — the time scale is the linear scale on milliseconds

All statements hold for every pair of integer instants (not only 1900–2200) and every count `m > 0`. -/
namespace Labella.C16
open Labella Labella.Calendar

/-! ### hierarchy of calendar boundaries -/

theorem boundary_hierarchy (t : Int) :
    (isBoundary .year t = true → isBoundary .month t = true) ∧
    (isBoundary .month t = true → isBoundary .day t = true) ∧
    (isBoundary .week t = true → isBoundary .day t = true) ∧
    (isBoundary .day t = true → isBoundary .hour t = true) ∧
    (isBoundary .hour t = true → isBoundary .minute t = true) ∧
    (isBoundary .minute t = true → isBoundary .second t = true) := by
  exact bdry_hierarchy t

/-! ### ticks -/

/-- the millisecond range lists exactly the multiples of the (integer, ≥ 1) step in `[t0, t1)` -/
theorem msRange_mem (t0 t1 : Int) (step : Rat) (x : Int) :
    x ∈ msRange t0 t1 step ↔
      (t0 ≤ x ∧ x < t1 ∧ x % (if step.floor < 1 then 1 else step.floor) = 0) := by
  exact msRange_mem' t0 t1 step x

theorem msRange_increasing (t0 t1 : Int) (step : Rat) : strictlyIncreasingB (msRange t0 t1 step) = true := by
  exact msRange_increasing' t0 t1 step

/-- ticks are strictly increasing (in particular pairwise distinct) -/
theorem ticks_increasing (d0 d1 : Int) (m : Rat) : strictlyIncreasingB (ticks d0 d1 m) = true := by
  exact ticks_incr d0 d1 m

/-- every tick lies inside the domain (either orientation) -/
theorem ticks_in_domain (d0 d1 : Int) (m : Rat) : inDomainB (min d0 d1) (max d0 d1) (ticks d0 d1 m) = true := by
  unfold inDomainB
  rw [List.all_eq_true]
  intro x hx
  unfold ticks at hx
  simp only at hx
  split at hx
  · have := (msRange_mem' _ _ _ _).1 hx
    simp only [Bool.and_eq_true, decide_eq_true_eq]
    omega
  · have := calRange_mem_boundary _ _ _ _ _ hx
    simp only [Bool.and_eq_true, decide_eq_true_eq]
    omega

/-- when the chosen method is a calendar unit, every tick is a boundary of that unit — hence, by
`boundary_hierarchy`, of every finer unit: whole seconds / minutes / hours, midnight for day-or-coarser, first of
the month for month-or-coarser, 1 January for yearly -/
theorem ticks_on_boundaries (d0 d1 : Int) (m : Rat) (u : TUnit) (s : Rat)
    (h : tickMethod (min d0 d1) (max d0 d1) m = .cal u s) :
    ∀ t ∈ ticks d0 d1 m, isBoundary u t = true := by
  intro t ht
  unfold ticks at ht
  simp only [h] at ht
  exact (calRange_mem_boundary _ _ _ _ _ ht).1

/-- … and for an integral skip they are exactly the boundaries in the domain whose unit number is divisible by it -/
theorem ticks_mem_cal (d0 d1 : Int) (m : Rat) (u : TUnit) (s : Rat)
    (h : tickMethod (min d0 d1) (max d0 d1) m = .cal u s) (hs : (effSkip s).den = 1) (x : Int) :
    x ∈ ticks d0 d1 m ↔
      (isBoundary u x = true ∧ min d0 d1 ≤ x ∧ x ≤ max d0 d1 ∧
        ((effSkip s).num ≤ 1 ∨ numberU u x % (effSkip s).num = 0)) := by
  exact ticks_cal_mem d0 d1 m u s h hs x

/-- sub-second domains: one tick per multiple of the integer millisecond step -/
theorem ticks_mem_ms (d0 d1 : Int) (m : Rat) (s : Rat)
    (h : tickMethod (min d0 d1) (max d0 d1) m = .ms s) (x : Int) :
    x ∈ ticks d0 d1 m ↔
      (min d0 d1 ≤ x ∧ x ≤ max d0 d1 ∧ x % (if (effSkip s).floor < 1 then 1 else (effSkip s).floor) = 0) := by
  exact ticks_ms_mem d0 d1 m s h x

/-! ### nice (time) -/

/-- floor and ceil of the method's interval bracket the instant -/
theorem mFloor_le (m : Method) (t : Int) : mFloor m t ≤ t := by
  exact mFloor_le' m t

theorem le_mCeil (m : Method) (t : Int) : t ≤ mCeil m t := by
  exact le_mCeil' m t

/-- the skip loops only move further out -/
theorem niceFloor_le (m : Method) (fuel : Nat) (t : Int) : niceFloor m fuel t ≤ t := by
  exact niceFloor_le' m fuel t

theorem le_niceCeil (m : Method) (fuel : Nat) (t : Int) : t ≤ niceCeil m fuel t := by
  exact le_niceCeil' m fuel t

/-- making a time domain nice never moves an end inward and never reverses its orientation -/
theorem nice_widens (d0 d1 : Int) (m : Rat) :
    (d0 ≤ d1 → (nice d0 d1 m).1 ≤ d0 ∧ d1 ≤ (nice d0 d1 m).2) ∧
    (d1 < d0 → d0 ≤ (nice d0 d1 m).1 ∧ (nice d0 d1 m).2 ≤ d1) := by
  rw [nice_eq]
  obtain ⟨W1, W2⟩ := niceRaw_widens (min d0 d1) (max d0 d1) (tickMethod (min d0 d1) (max d0 d1) m)
  constructor
  · intro hle; rw [if_neg (by omega)]; exact ⟨by omega, by omega⟩
  · intro hlt; rw [if_pos hlt]; exact ⟨by omega, by omega⟩

/-- with a calendar method both new ends are boundaries of the method's unit (so aligned at least as coarsely as the ticks) -/
theorem nice_on_boundaries (d0 d1 : Int) (m : Rat) (u : TUnit) (s : Rat)
    (h : tickMethod (min d0 d1) (max d0 d1) m = .cal u s) :
    isBoundary u (nice d0 d1 m).1 = true ∧ isBoundary u (nice d0 d1 m).2 = true := by
  rw [nice_eq, h]
  have B := niceRaw_boundary (min d0 d1) (max d0 d1) u s
  split
  · exact ⟨B.2, B.1⟩
  · exact B

-- non-vacuity (evaluated): ticks 0 86400000 10 = every 3 hours of 1970-01-01; nice 1000 90000000 10 = (0, 97200000)
example : tickMethod 0 86400000 10 = .cal .hour 3 := by
  decide +kernel
example : ticks 0 86400000 10 =
    [0, 10800000, 21600000, 32400000, 43200000, 54000000, 64800000, 75600000, 86400000] := by
  decide +kernel
example : nice 1000 90000000 10 = (0, 97200000) := by
  decide +kernel

/-! ### gaps and counts -/

open Labella Labella.Calendar

/-- nominal spacing (ms) of the methods whose ticks are equally spaced: every `k` seconds/minutes/hours with `k`
dividing the enclosing minute/hour/day, every day, every week -/
def uniformStep : TUnit → Int → Option Int
  | .second, k => if k = 1 ∨ k = 5 ∨ k = 15 ∨ k = 30 then some (k * 1000) else none
  | .minute, k => if k = 1 ∨ k = 5 ∨ k = 15 ∨ k = 30 then some (k * 60000) else none
  | .hour, k => if k = 1 ∨ k = 3 ∨ k = 6 ∨ k = 12 then some (k * 3600000) else none
  | .day, k => if k = 1 then some 86400000 else none
  | .week, k => if k = 1 then some 604800000 else none
  | _, _ => none

theorem uniformStep_pos {u : TUnit} {k S : Int} (hS : uniformStep u k = some S) : 0 < S := by
  cases u <;> simp only [uniformStep, Option.ite_none_right_eq_some, Option.some.injEq, reduceCtorEq] at hS <;> omega

/-- equally spaced methods: the ticks are exactly the instants of the domain in one residue class modulo the spacing
(residue 0, except weeks: Sundays are 3 days after a multiple of 7 days from the epoch, a Thursday) -/
theorem ticks_uniform (d0 d1 : Int) (m : Rat) (u : TUnit) (s : Rat) (S : Int)
    (h : tickMethod (min d0 d1) (max d0 d1) m = .cal u s) (hs : (effSkip s).den = 1)
    (hS : uniformStep u (effSkip s).num = some S) (x : Int) :
    x ∈ ticks d0 d1 m ↔
      (min d0 d1 ≤ x ∧ x ≤ max d0 d1 ∧ x % S = (if u = .week then 259200000 else 0)) := by
  rw [ticks_cal_mem d0 d1 m u s h hs x]
  generalize (effSkip s).num = k at hS
  have key : Qcal u k x ↔ x % S = (if u = .week then 259200000 else 0) := by
    cases u <;>
      simp only [uniformStep, Option.ite_none_right_eq_some, Option.some.injEq, reduceCtorEq, if_false, if_true] at hS ⊢ <;>
      obtain ⟨hk, rfl⟩ := hS
    · exact kept_mul grid_second (fun i => numbered_mul i 60 (by decide)) (by omega)
        (by rcases hk with rfl | rfl | rfl | rfl <;> rfl) x
    · exact kept_mul grid_minute (fun i => numbered_mul i 60 (by decide)) (by omega)
        (by rcases hk with rfl | rfl | rfl | rfl <;> rfl) x
    · exact kept_mul grid_hour (fun i => numbered_mul i 24 (by decide)) (by omega)
        (by rcases hk with rfl | rfl | rfl | rfl <;> rfl) x
    · subst hk
      exact kept_mul grid_day (fun i => Int.emod_one _) (Int.le_refl 1) rfl x
    · simp only [Qcal, isBoundary, beq_iff_eq, msPerDay, weekdaySun0, Bool.and_eq_true]
      omega
  exact ⟨fun ⟨a, b, c, d⟩ => ⟨b, c, key.1 ⟨a, d⟩⟩, fun ⟨b, c, r⟩ => ⟨(key.2 r).1, b, c, (key.2 r).2⟩⟩

/-- hence all their gaps are equal to the spacing -/
theorem gaps_uniform (d0 d1 : Int) (m : Rat) (u : TUnit) (s : Rat) (S : Int)
    (h : tickMethod (min d0 d1) (max d0 d1) m = .cal u s) (hs : (effSkip s).den = 1)
    (hS : uniformStep u (effSkip s).num = some S) :
    ∀ g ∈ gapsOf (ticks d0 d1 m), g = S := by
  exact gaps_residue _ (ticks_incr d0 d1 m) (min d0 d1) (max d0 d1) S _ (uniformStep_pos hS)
    (fun x => ticks_uniform d0 d1 m u s S h hs hS x)

/-- the millisecond branch is equally spaced too -/
theorem gaps_ms (d0 d1 : Int) (m : Rat) (s : Rat)
    (h : tickMethod (min d0 d1) (max d0 d1) m = .ms s) :
    ∀ g ∈ gapsOf (ticks d0 d1 m), g = (if (effSkip s).floor < 1 then 1 else (effSkip s).floor) := by
  exact gaps_residue _ (ticks_incr d0 d1 m) (min d0 d1) (max d0 d1) _ 0 (msStep_pos _)
    (fun x => ticks_ms_mem d0 d1 m s h x)

/-- the step table: every method the table can select is either equally spaced or one of day/2, month/1, month/3 -/
theorem table_methods (e0 e1 : Int) (m : Rat) (u : TUnit) (s : Rat) (hm : 0 < m)
    (h : tickMethod e0 e1 m = .cal u s) (hu : u ≠ .year) :
    (effSkip s).den = 1 ∧
    ((uniformStep u (effSkip s).num).isSome = true ∨ (u = .day ∧ s = 2) ∨ (u = .month ∧ (s = 1 ∨ s = 3))) := by
  have _ := hm
  obtain ⟨p, hp, rfl, rfl⟩ := tickMethod_entry e0 e1 m u s h hu
  have key : ∀ p < 18, rowUnit p ≠ .year → (effSkip (rowSkip p : Rat)).den = 1 ∧
      ((uniformStep (rowUnit p) (effSkip (rowSkip p : Rat)).num).isSome = true ∨
        (rowUnit p = .day ∧ (rowSkip p : Rat) = 2) ∨
        (rowUnit p = .month ∧ ((rowSkip p : Rat) = 1 ∨ (rowSkip p : Rat) = 3))) := by decide +kernel
  exact key p hp hu

/-- **Gap ratio**: consecutive gaps differ by at most a factor of two — every domain, every count -/
theorem gap_ratio (d0 d1 : Int) (m : Rat) (hm : 0 < m) : gapRatioB (ticks d0 d1 m) = true := by
  obtain ⟨Q, a, b, R⟩ := tickGrid_exists d0 d1 m hm
  exact gapRatio_of_bounds _ a b (R.sp.gaps _ (ticks_incr d0 d1 m) _ _ R.mem) R.ratio

/-- the chosen table step is within a factor √5 of the target spacing `span/m` (the table's largest ratio between
neighbouring steps is 5, and the geometric-mean rule picks the nearer one): `S² ≤ 5·target²` and `target² < 5·S²` -/
theorem table_step_near_target (e0 e1 : Int) (m : Rat) (hm : 0 < m) (i : Nat)
    (hi : bisectRight Gen.timeScaleSteps (((e1 - e0 : Int) : Rat) / m) = i) (h0 : 0 < i) (hlt : i < Gen.timeScaleSteps.length) :
    let target : Rat := ((e1 - e0 : Int) : Rat) / m
    let lo := Gen.timeScaleSteps.getD (i - 1) 1
    let hi := Gen.timeScaleSteps.getD i 1
    let S := if target / lo < hi / target then lo else hi
    S * S ≤ 5 * (target * target) ∧ target * target < 5 * (S * S) := by
  have _ := hm
  intro target lo hi' S
  have sp := bisect_spec target Gen.timeScaleSteps
  rw [hi] at sp
  have ta := table_adjacent i h0 hlt
  exact near_target_core lo hi' target ta.1 (sp.1 (i - 1) (by omega)) (sp.2 hlt) ta.2

/-- **Count**: for EVERY whole count m ≥ 2 the number of ticks lies between m/2.4 − 1 and 2.4·m + 1, or the domain is shorter
than m milliseconds and gets one tick per millisecond -/
theorem tick_count (d0 d1 : Int) (m : Nat) (hm : 2 ≤ m) :
    countB (min d0 d1) (max d0 d1) (m : Rat) (ticks d0 d1 (m : Rat)) = true := by
  have hmq : (0 : Rat) < m := by exact_mod_cast (show 0 < m by omega)
  obtain ⟨Q, a, b, R⟩ := tickGrid_exists d0 d1 (m : Rat) hmq
  have inc := ticks_incr d0 d1 (m : Rat)
  have cnt := R.sp.count _ inc (min d0 d1) (max d0 d1) (by omega) R.mem
  have hsp := span_eq d0 d1 (m : Rat) hmq
  have ap : (0 : Rat) < a := by exact_mod_cast R.sp.apos
  have bp : (0 : Rat) < b := lt_of_lt_of_le ap (by exact_mod_cast R.sp.a_le_b)
  have cq : (((ticks d0 d1 (m : Rat)).length : Rat) - 1) * a ≤ target d0 d1 (m : Rat) * (m : Rat) ∧
      target d0 d1 (m : Rat) * (m : Rat) < (((ticks d0 d1 (m : Rat)).length : Rat) + 1) * b := by
    rw [← hsp]; exact_mod_cast cnt
  have hup : ((ticks d0 d1 (m : Rat)).length : Rat) ≤ 12 / 5 * (m : Rat) + 1 := by
    rcases R.up with h1 | ⟨hQ, hT⟩
    · exact count_upper _ _ _ _ hmq ap cq.1 h1
    · subst hQ
      exact day2_count_upper _ _ _ m hm inc R.mem _ hsp hT
  unfold countB
  simp only [Bool.or_eq_true, Bool.and_eq_true, decide_eq_true_eq, beq_iff_eq]
  rw [show (m : Rat) / (12 / 5) = 5 / 12 * (m : Rat) by ring]
  rcases R.down with h1 | ⟨hb1, hall⟩
  · exact Or.inl ⟨count_lower _ _ _ _ hmq bp cq.2 h1, hup⟩
  · by_cases hlt : ((max d0 d1 - min d0 d1 : Int) : Rat) < (m : Rat)
    · right
      refine ⟨hlt, ?_⟩
      obtain ⟨p1, p2⟩ := range_list_props (min d0 d1) (max d0 d1)
      apply sincr_ext _ _ ((sincr_iff_pairwise _).1 inc) p1
      intro x
      rw [p2, R.mem]
      exact ⟨fun ⟨h1, h2, _⟩ => ⟨h1, h2⟩, fun ⟨h1, h2⟩ => ⟨h1, h2, hall x⟩⟩
    · rw [not_lt, hsp] at hlt
      subst hb1
      exact Or.inl ⟨count_lower _ _ _ _ hmq bp cq.2
        (le_trans (b := 1) (by norm_num) (le_of_mul_le_mul_right (by rwa [one_mul]) hmq)), hup⟩

/-- **C16 in full** for the model: the complete tick predicate holds for every domain and EVERY whole count m ≥ 2 -/
theorem ticks_ok (d0 d1 : Int) (m : Nat) (hm : 2 ≤ m) :
    ticksOKB d0 d1 (m : Rat) (ticks d0 d1 (m : Rat)) = true := by
  have hmq : (0 : Rat) < m := by exact_mod_cast (show 0 < m by omega)
  obtain ⟨Q, a, b, R⟩ := tickGrid_exists d0 d1 (m : Rat) hmq
  have inc := ticks_incr d0 d1 (m : Rat)
  have gaps := R.sp.gaps _ inc _ _ R.mem
  unfold ticksOKB
  simp only [Bool.and_eq_true]
  refine ⟨⟨⟨⟨inc, ticks_in_domain d0 d1 m⟩, gapRatio_of_bounds _ a b gaps R.ratio⟩, tick_count d0 d1 m hm⟩, ?_⟩
  split
  · rename_i g hg
    have hg' := gaps g (List.min?_mem hg)
    rw [alignedB_iff]
    intro t ht
    exact (R.align t ((R.mem t).1 ht).2.2).mono hg'.2
  · rfl

/-- there is a tick grid `Q` — the ticks of the original domain are exactly the points of `Q`
inside it, consecutive points of `Q` are between `a` and `b ≤ 2a` apart — such that the nice domain's lower end is the
GREATEST point of `Q` not after `min d0 d1` and its upper end the LEAST point of `Q` not before `max d0 d1` -/
theorem nice_nearest_grid_points (d0 d1 : Int) (m : Rat) (hm : 0 < m) :
    ∃ (Q : Int → Prop) (a b : Int), Spaced Q a b ∧ b ≤ 2 * a ∧
      (∀ x, x ∈ ticks d0 d1 m ↔ (min d0 d1 ≤ x ∧ x ≤ max d0 d1 ∧ Q x)) ∧
      GreatestLE Q (min d0 d1) (if d1 < d0 then (nice d0 d1 m).2 else (nice d0 d1 m).1) ∧
      LeastGE Q (max d0 d1) (if d1 < d0 then (nice d0 d1 m).1 else (nice d0 d1 m).2) := by
  obtain ⟨Q, a, b, R⟩ := tickGrid_exists d0 d1 m hm
  exact ⟨Q, a, b, R.sp, R.ratio, R.mem, R.nice⟩

/-- **C14 (time part) in full** for the model: for every domain and EVERY positive count (whole or fractional) the nice domain satisfies the complete predicate: ends only move outward, by less than two tick steps (largest gap of the original domain's ticks), onto boundaries at least as coarse as the tick spacing -/
theorem nice_ok (d0 d1 : Int) (m : Rat) (hm : 0 < m) :
    niceOKB d0 d1 m (nice d0 d1 m).1 (nice d0 d1 m).2 = true := by
  obtain ⟨Q, a, b, R⟩ := tickGrid_exists d0 d1 m hm
  have inc := ticks_incr d0 d1 m
  have gaps := R.sp.gaps _ inc _ _ R.mem
  unfold niceOKB
  simp only
  obtain ⟨⟨lq, lle, lmax⟩, ⟨hq, hle, hmin⟩⟩ := R.nice
  generalize (if d1 < d0 then (nice d0 d1 m).2 else (nice d0 d1 m).1) = nlo at *
  generalize (if d1 < d0 then (nice d0 d1 m).1 else (nice d0 d1 m).2) = nhi at *
  rw [Bool.and_eq_true, Bool.and_eq_true]
  refine ⟨⟨decide_eq_true lle, decide_eq_true hle⟩, ?_⟩
  split
  · rename_i g gmin hg hgmin
    have hg' := gaps g (List.max?_mem hg)
    have hgm' := gaps gmin (List.min?_mem hgmin)
    obtain ⟨x, hx1, hx2, hx3⟩ := R.sp.below (min d0 d1)
    obtain ⟨y, hy1, hy2, hy3⟩ := R.sp.above (max d0 d1)
    have := lmax x hx1 hx2
    have := hmin y hy1 hy2
    have := R.ratio
    rw [Bool.and_eq_true, Bool.and_eq_true]
    refine ⟨⟨decide_eq_true (by omega), decide_eq_true (by omega)⟩, ?_⟩
    rw [alignedB_iff]
    intro t ht
    simp only [List.mem_cons, List.not_mem_nil, or_false] at ht
    rcases ht with rfl | rfl
    · exact (R.align _ lq).mono hgm'.2
    · exact (R.align _ hq).mono hgm'.2
  · rfl

-- non-vacuity (evaluated): the domain below has nine ticks 3 h apart; its ends move out by 1 s and 1 h 40 min
example : niceOKB 1000 90000000 10 0 97200000 = true := by
  decide +kernel

end Labella.C16
