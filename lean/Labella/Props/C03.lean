import Labella.Props.C01
/-! # C03 — position bounds are honoured whenever the items fit; otherwise the excess spills -/
namespace Labella.C03
open Labella Labella.Chain Labella.Layout

/-- **If they do not fit, separation is still kept in full**: the separation theorem has no hypothesis about
fitting — whatever the bounds, neighbours keep their gaps up to eps (so the excess can only go beyond the
bounds, never into overlap). -/
theorem separation_kept_regardless_of_bounds (o : ROpts) (its : List LItem)
    (hs : its.Pairwise (fun a b => a.target ≤ b.target)) :
    sepAdjB o Layout.eps (its.zip (solveSorted o its)) = true :=
  sep_unrounded' o its hs

/-- **If they fit, the walls stay at the bounds** up to `sqrt(K / W)`: whenever some placement `zs` of the items
keeps all gaps inside `[lo, hi]`, `W·(x_L − lo)² + W·(x_R − hi)² ≤ K := Σ (zᵢ − tᵢ)²` (W = 1e10). -/
theorem walls_near_bounds (its : List LItem) (lo hi : ℚ) (ns ls : ℚ) (h : its ≠ [])
    (zs : List ℚ) (hz : zs.length = its.length)
    (hfeas : SepBy 0 (chainGaps ⟨some lo, some hi, ns, ls⟩ its) (lo :: zs ++ [hi])) :
    let o : ROpts := ⟨some lo, some hi, ns, ls⟩
    let all := solve Layout.eps (chainVars o its) (chainGaps o its)
    Gen.wallWeight * (all.headD 0 - lo) * (all.headD 0 - lo)
      + Gen.wallWeight * (all.getLastD 0 - hi) * (all.getLastD 0 - hi)
      ≤ cost (its.map toVar) zs := by
  intro o all
  exact walls_near_bounds' its lo hi ns ls h zs hz hfeas

/-- the bounds are stiff: the wall weight extracted from the source is at least the 10¹⁰ the property's "inside the
bounds to within 0.5 rounding" presupposes (the predicates evaluated on the implementation use 10¹⁰ as a fixed reference) -/
theorem wall_weight_large : refWallWeight ≤ Gen.wallWeight := by
  unfold refWallWeight Gen.wallWeight; norm_num

/-- the first (last) item is a hard half-width away from its wall, like every other gap of the chain -/
theorem wall_gaps_kept (o : ROpts) (its : List LItem) :
    SepBy Layout.eps (chainGaps o its) (solve Layout.eps (chainVars o its) (chainGaps o its)) :=
  solve_feasible' Layout.eps eps_nonneg' _ _ (chainVars_pos o its)

-- non-vacuity: two labels that fit between 0 and 20 lie inside; walls stay (almost) put
example : solve Layout.eps (chainVars ⟨some 0, some 20, 3, 2⟩ [⟨5, 4, false⟩, ⟨6, 4, false⟩])
    (chainGaps ⟨some 0, some 20, 3, 2⟩ [⟨5, 4, false⟩, ⟨6, 4, false⟩]) = [0, 2, 9, 20] := by decide +kernel


/-! ### end to end -/
open Labella.C01 (layerView solvedItems) in
/-- **C03 end to end** (proved in `Props/C01.lean`): in every layer whose items fit between the bounds every item lies inside the bounds up to the
wall-stiffness bound `d` (`Σ (zᵢ − tᵢ)² ≤ W·d²`), the accumulated solver tolerance and the rounding 1/2; and in every layer, fitting or not, the separation
holds in full (the excess spills over the bounds instead of being absorbed as overlap) -/
theorem layout_inside_end_to_end (o : FOpts) (labels : List Label) (j : Nat)
    (hw : ∀ l ∈ labels, 0 ≤ l.width) (hsw : 0 ≤ o.stubWidth) (hns : 0 ≤ o.nodeSpacing) (hls : 0 ≤ o.lineSpacing)
    (zs : List ℚ) (hz : zs.length = (solvedItems o labels j).length)
    (hfeas : SepBy 0 (chainGaps o.toR (solvedItems o labels j))
      ((leftWall o.toR).map (·.t) ++ zs ++ (rightWall o.toR).map (·.t)))
    (d : ℚ) (hd : 0 ≤ d) (hK : cost ((solvedItems o labels j).map toVar) zs ≤ Gen.wallWeight * d * d) :
    insideB o.toR (d + ((solvedItems o labels j).length : ℚ) * Layout.eps + 1 / 2)
        (layerView o labels (compute o labels) j) = true ∧
      sepAdjB o.toR (1 + Layout.eps) (layerView o labels (compute o labels) j) = true :=
  C01.compute_inside o labels j hw hsw hns hls zs hz hfeas d hd hK

open Labella.C01 (layerView solvedItems) in
/-- "the items fit" (widths plus spacings ≤ maxPos − minPos) is exactly the hypothesis of `layout_inside_end_to_end` -/
theorem fits_iff_feasible (o : FOpts) (labels : List Label) (j : Nat) (h : solvedItems o labels j ≠ []) :
    fitsB o.toR (solvedItems o labels j) = true ↔
      ∃ zs : List ℚ, zs.length = (solvedItems o labels j).length ∧
        SepBy 0 (chainGaps o.toR (solvedItems o labels j))
          ((leftWall o.toR).map (·.t) ++ zs ++ (rightWall o.toR).map (·.t)) :=
  C01.fits_iff_feasible o labels j h

end Labella.C03
