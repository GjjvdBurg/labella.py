import Labella.Model.Scale
import Labella.Proofs.TickLemmas
import Labella.Proofs.FormatLemmas
import Labella.Proofs.Rounding
import Mathlib.Algebra.Order.Field.Rat
import Mathlib.Tactic.Ring
import Mathlib.Tactic.Linarith
import Mathlib.Tactic.FieldSimp
import Mathlib.Tactic.NormNum
/-! # C13 — linear ticks are round, evenly spaced, complete, in-domain, uniquely labelled

Stated over ℚ; thresholds and multipliers come from `Gen/Constants.lean` (regenerated from the source). -/
namespace Labella.C13
open Labella Labella.Scale

/-- `pow10` is the integer power of ten -/
theorem pow10_pos (k : Int) : 0 < pow10 k := by
  exact Scale.pow10_pos k

theorem pow10_succ (k : Int) : pow10 (k + 1) = 10 * pow10 k := by
  exact Scale.pow10_succ k

/-- `floorLog10 q` is the decade of `q` (the fuel of the search always suffices) -/
theorem floorLog10_spec (q : ℚ) (hq : 0 < q) :
    pow10 (floorLog10 q) ≤ q ∧ q < pow10 (floorLog10 q + 1) := by
  exact Scale.floorLog10_spec q hq

/-- the step is 1, 2 or 5 times a power of ten -/
theorem step_form (span m : ℚ) (hs : 0 < span) (hm : 0 < m) :
    ∃ k : Int, tickStep span m = pow10 k ∨ tickStep span m = 2 * pow10 k ∨ tickStep span m = 5 * pow10 k := by
  exact tickStep_form span m hs hm

theorem step_pos (span m : ℚ) (hs : 0 < span) (hm : 0 < m) : 0 < tickStep span m := by
  exact tickStep_pos span m hs hm

/-- the number of steps in the span is between `4/7·m` and (just under) `10/7·m`:  `0.6999·span < m·step ≤ 1.75·span`
(the float literal `0.35` is a hair below 0.35, so `2·0.35` is a hair below 0.7: hence 0.6999 rather than 0.7) -/
theorem span_over_step_bounds (span m : ℚ) (hs : 0 < span) (hm : 0 < m) :
    (6999 / 10000) * span < m * tickStep span m ∧ m * tickStep span m ≤ (7 / 4) * span := by
  exact tickStep_bounds span m hs hm

/-- the ticks are exactly the integer multiples of the step that lie inside the domain (none missing, none outside) -/
theorem ticks_mem (d0 d1 m x : ℚ) (hd : d0 ≠ d1) (hm : 0 < m) :
    x ∈ ticks d0 d1 m ↔
      (∃ k : Int, x = (k : ℚ) * (tickRange d0 d1 m).2.2) ∧ (extent d0 d1).1 ≤ x ∧ x ≤ (extent d0 d1).2 := by
  rw [ticks_eq d0 d1 m hd hm]
  exact mem_multiplesBetween _ _ _ x (tickRange_step_pos d0 d1 m hd hm)

theorem ticks_increasing (d0 d1 m : ℚ) (hd : d0 ≠ d1) (hm : 0 < m) : increasingB (ticks d0 d1 m) = true := by
  rw [ticks_eq d0 d1 m hd hm]
  exact increasingB_of_pairwise _ (pairwise_multiplesBetween _ _ _ (tickRange_step_pos d0 d1 m hd hm))

/-- their number lies between `0.57·m` rounded down and `1.43·m + 1` -/
theorem tick_count (d0 d1 m : ℚ) (hd : d0 ≠ d1) (hm : 0 < m) :
    (((57 : ℚ) / 100 * m).floor : Int) ≤ ((ticks d0 d1 m).length : Int) ∧
    (((ticks d0 d1 m).length : Nat) : ℚ) ≤ (143 : ℚ) / 100 * m + 1 := by
  have hpos := tickRange_step_pos d0 d1 m hd hm
  have hlt := extent_lt d0 d1 hd
  obtain ⟨b1, b2⟩ := tickStep_bounds _ m (sub_pos.mpr hlt) hm
  rw [← tickRange_step d0 d1 m hd] at b1 b2
  rw [ticks_eq d0 d1 m hd hm]
  -- the span in steps against `m` and against the number of ticks
  rw [← div_lt_iff₀ hpos, mul_div_assoc, sub_div] at b1
  rw [← le_div_iff₀ hpos, mul_div_assoc, sub_div] at b2
  obtain ⟨c1, c2⟩ := length_multiplesBetween _ _ _ hpos hlt.le
  have g := Rat.floor_le ((57 : ℚ) / 100 * m)
  refine ⟨Int.lt_add_one_iff.mp (Int.cast_lt (R := ℚ) |>.mp ?_), by linarith only [b1, b2, c2]⟩
  push_cast; linarith only [g, b2, c1]

/-- the label precision makes every tick an exact decimal: `tick · 10^decimals` is an integer, so rounding to that
many decimals is exact and the printed number *is* the tick (distinct ticks therefore get distinct texts) -/
theorem format_exact (d0 d1 m x : ℚ) (hd : d0 ≠ d1) (hm : 0 < m) (hx : x ∈ ticks d0 d1 m) :
    let dec := tickDecimals (tickRange d0 d1 m).2.2
    ((roundHalfEven (x * (10 : ℚ) ^ dec) : Int) : ℚ) / (10 : ℚ) ^ dec = x := by
  intro dec
  obtain ⟨⟨j, hj⟩, -, -⟩ := (ticks_mem d0 d1 m x hd hm).mp hx
  obtain ⟨k, hform⟩ := tickStep_form _ m (sub_pos.mpr (extent_lt d0 d1 hd)) hm
  rw [← tickRange_step d0 d1 m hd] at hform
  obtain ⟨w, hw⟩ : ∃ w : Int, (tickRange d0 d1 m).2.2 * (10 : ℚ) ^ dec = w := form_mul_dec hform
  exact roundHalfEven_mul_div x dec (j * w) (by rw [hj, mul_assoc, hw, Int.cast_mul])

/-- the text of a number reads back as the number rounded to `d` decimals (the sign is printed iff the scaled,
rounded integer is negative, so a value that rounds to zero prints as "0.00" and reads back as 0) -/
theorem parseDecimal_formatFixed (x : ℚ) (d : ℕ) : parseDecimal (formatFixed x d) = some (fixedValue d x) := by
  exact Scale.parseDecimal_formatFixed x d

theorem ticks_nodup (d0 d1 m : ℚ) (hd : d0 ≠ d1) (hm : 0 < m) : (ticks d0 d1 m).Nodup := by
  rw [ticks_eq d0 d1 m hd hm]
  exact (pairwise_multiplesBetween _ _ _ (tickRange_step_pos d0 d1 m hd hm)).nodup

/-- **C13, texts:** for a non-degenerate domain and m > 0 the model's tick texts are pairwise distinct and each reads
back as exactly its tick -/
theorem tick_texts_ok (d0 d1 m : ℚ) (hd : d0 ≠ d1) (hm : 0 < m) :
    textsOKB (tickRange d0 d1 m).2.2 (ticks d0 d1 m)
      ((ticks d0 d1 m).map (fun x => formatFixed x (tickDecimals (tickRange d0 d1 m).2.2))) = true := by
  apply textsOKB_map _ (tickRange_step_pos d0 d1 m hd hm).le _ (ticks_nodup d0 d1 m hd hm)
  intro x hx
  rw [Scale.parseDecimal_formatFixed]
  exact congrArg some (format_exact d0 d1 m x hd hm hx)

-- non-vacuity
-- (evaluated: `tickStep 1 10 = 1/10`, `ticks 0 1 2 = [0, 1/2, 1]`, `nice (3/10) (97/10) 10 = (0, 10)`)
example : (0 : ℚ) < 1 ∧ (0 : ℚ) < 10 := by norm_num

end Labella.C13
